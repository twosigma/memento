import MementoModel.Model.Version

/-! Depth-first closure = reachability. Completeness runs on an invariant (`Closed`) and a measure (`unvisited`) that the
fuel bounds; at the end nothing is pending, so the result is closed under successors and contains the roots. -/
namespace Memento.Version

inductive Reachable (sc : Node → List Node) (roots : List Node) : Node → Prop
  | root {x} : x ∈ roots → Reachable sc roots x
  | step {x y} : Reachable sc roots x → y ∈ sc x → Reachable sc roots y

theorem Reachable.of_roots {sc : Node → List Node} {roots roots' : List Node}
    (h : ∀ r ∈ roots, Reachable sc roots' r) {z : Node} (hz : Reachable sc roots z) :
    Reachable sc roots' z := by
  induction hz with
  | root hx => exact h _ hx
  | step _ hy ih => exact Reachable.step ih hy

theorem Reachable.mono {sc : Node → List Node} {roots roots' : List Node}
    (h : ∀ r ∈ roots, r ∈ roots') {z : Node} (hz : Reachable sc roots z) : Reachable sc roots' z :=
  Reachable.of_roots (fun r hr => Reachable.root (h r hr)) hz

theorem reachable_congr {sc sc' : Node → List Node} {roots : List Node}
    (h : ∀ x, Reachable sc roots x → ∀ y, y ∈ sc' x ↔ y ∈ sc x) {z : Node} :
    Reachable sc' roots z ↔ Reachable sc roots z := by
  constructor
  · intro hz
    induction hz with
    | root hx => exact .root hx
    | step _ hy ih => exact .step ih ((h _ ih _).mp hy)
  · intro hz
    induction hz with
    | root hx => exact .root hx
    | step hx hy ih => exact .step ih ((h _ hx _).mpr hy)

theorem dropVisited_spec (vis todo : List Node) :
    ∃ pre, todo = pre ++ dropVisited vis todo ∧ (∀ y ∈ pre, y ∈ vis) ∧ ∀ x ∈ (dropVisited vis todo).head?, x ∉ vis := by
  fun_induction dropVisited vis todo with
  | case1 => exact ⟨[], rfl, fun _ h => (nomatch h), fun _ h => (nomatch h)⟩
  | case2 y t hy ih =>
    obtain ⟨pre, h1, h2, h3⟩ := ih
    exact ⟨y :: pre, congrArg (y :: ·) h1, List.forall_mem_cons.mpr ⟨hy, h2⟩, h3⟩
  | case3 y t hy => exact ⟨[], rfl, fun _ h => (nomatch h), fun x hx => Option.some.inj hx ▸ hy⟩

theorem dropVisited_nil {vis todo : List Node} (h : dropVisited vis todo = []) : ∀ x ∈ todo, x ∈ vis := by
  obtain ⟨pre, h1, h2, _⟩ := dropVisited_spec vis todo
  rw [h, List.append_nil] at h1
  exact h1 ▸ h2

theorem dropVisited_cons {vis todo : List Node} {x : Node} {t : List Node} (h : dropVisited vis todo = x :: t) :
    x ∉ vis ∧ x ∈ todo ∧ (∀ y ∈ t, y ∈ todo) ∧ (∀ y ∈ todo, y ∈ vis ∨ y = x ∨ y ∈ t) := by
  obtain ⟨pre, h1, h2, h3⟩ := dropVisited_spec vis todo
  rw [h] at h1 h3
  subst h1
  refine ⟨h3 x rfl, by simp, fun y hy => by simp [hy], fun y hy => ?_⟩
  rcases List.mem_append.mp hy with hy | hy
  · exact Or.inl (h2 y hy)
  · exact Or.inr (List.mem_cons.mp hy)

theorem closure_sound (sc : Node → List Node) (n : Nat) : ∀ (todo vis : List Node),
    ∀ z ∈ closure sc n todo vis, z ∈ vis ∨ Reachable sc todo z := by
  intro todo vis
  fun_induction closure sc n todo vis with
  | case1 todo vis => exact fun z hz => Or.inl hz
  | case2 n todo vis hd => exact fun z hz => Or.inl hz
  | case3 n todo vis x t hd ih =>
    intro z hz
    obtain ⟨_, hxt, htt, _⟩ := dropVisited_cons hd
    rcases ih z hz with h | h
    · rcases List.mem_cons.mp h with h | h
      · subst h; exact Or.inr (Reachable.root hxt)
      · exact Or.inl h
    · refine Or.inr (h.of_roots ?_)
      intro r hr
      rcases List.mem_append.mp hr with hr | hr
      · exact Reachable.step (Reachable.root hxt) hr
      · exact Reachable.root (htt r hr)

def Closed (sc : Node → List Node) (todo vis : List Node) : Prop :=
  ∀ x ∈ vis, ∀ y ∈ sc x, y ∈ vis ∨ y ∈ todo

def unvisited (U vis : List Node) : Nat := U.countP (fun u => decide (u ∉ vis))

theorem unvisited_cons_lt (U vis : List Node) (x : Node) (hxU : x ∈ U) (hx : x ∉ vis) :
    unvisited U (x :: vis) < unvisited U vis := by
  unfold unvisited
  have : U.filter (fun u => decide (u ∉ x :: vis)) =
      (U.filter (fun u => decide (u ∉ vis))).filter (fun u => decide (u ≠ x)) := by
    rw [List.filter_filter]
    exact List.filter_congr fun u _ => by simp only [List.mem_cons, not_or, Bool.decide_and]
  rw [List.countP_eq_length_filter, List.countP_eq_length_filter, this]
  exact List.length_filter_lt_length_iff_exists.mpr ⟨x, List.mem_filter.mpr ⟨hxU, by simpa using hx⟩, by simp⟩

theorem unvisited_zero {U vis : List Node} (h : unvisited U vis = 0) : ∀ x ∈ U, x ∈ vis := by
  intro x hx
  unfold unvisited at h
  by_cases hv : x ∈ vis
  · exact hv
  · have := List.countP_eq_zero.mp h x hx
    simp [hv] at this

theorem closed_of_visited {sc : Node → List Node} {todo vis : List Node} (hcl : Closed sc todo vis)
    (hall : ∀ y ∈ todo, y ∈ vis) : Closed sc [] vis := by
  intro x hx y hy
  rcases hcl x hx y hy with h | h
  · exact Or.inl h
  · exact Or.inl (hall y h)

/-- The second and third conjunct are the result (`mem_closure_iff`). The first, nothing visited is lost, is there for the
    induction: `x` and the visited part of `todo` are in what the walk from `x :: vis` returns. -/
theorem closure_complete (sc : Node → List Node) (U : List Node) (hU : ∀ x, ∀ y ∈ sc x, y ∈ U)
    (n : Nat) : ∀ (todo vis : List Node),
    (∀ x ∈ todo, x ∈ U) → unvisited U vis ≤ n → Closed sc todo vis →
    (∀ x ∈ vis, x ∈ closure sc n todo vis) ∧ (∀ x ∈ todo, x ∈ closure sc n todo vis) ∧
      Closed sc [] (closure sc n todo vis) := by
  intro todo vis
  fun_induction closure sc n todo vis with
  | case1 todo vis =>
    intro htodo hfuel hcl
    have hall := fun x hx => unvisited_zero (Nat.le_zero.mp hfuel) x (htodo x hx)
    exact ⟨fun x hx => hx, hall, closed_of_visited hcl hall⟩
  | case2 n todo vis hd =>
    intro _ _ hcl
    have hall := dropVisited_nil hd
    exact ⟨fun x hx => hx, hall, closed_of_visited hcl hall⟩
  | case3 n todo vis x t hd ih =>
    intro htodo hfuel hcl
    obtain ⟨hx, hxt, htt, hcover⟩ := dropVisited_cons hd
    have hlt := unvisited_cons_lt U vis x (htodo x hxt) hx
    have hcl' : Closed sc (sc x ++ t) (x :: vis) := by
      intro a ha y hy
      rcases List.mem_cons.mp ha with h | h
      · subst h; exact Or.inr (List.mem_append_left _ hy)
      · rcases hcl a h y hy with h' | h'
        · exact Or.inl (List.mem_cons_of_mem _ h')
        · rcases hcover y h' with h'' | h'' | h''
          · exact Or.inl (List.mem_cons_of_mem _ h'')
          · subst h''; exact Or.inl List.mem_cons_self
          · exact Or.inr (List.mem_append_right _ h'')
    have htodo' : ∀ a ∈ sc x ++ t, a ∈ U := by
      intro a ha
      rcases List.mem_append.mp ha with h | h
      · exact hU x a h
      · exact htodo a (htt a h)
    obtain ⟨h1, h2, h3⟩ := ih htodo' (Nat.le_of_lt_succ (Nat.lt_of_lt_of_le hlt hfuel)) hcl'
    refine ⟨fun a ha => h1 a (List.mem_cons_of_mem _ ha), ?_, h3⟩
    intro a ha
    rcases hcover a ha with h | h | h
    · exact h1 a (List.mem_cons_of_mem _ h)
    · subst h; exact h1 _ List.mem_cons_self
    · exact h2 a (List.mem_append_right _ h)

theorem closure_nodup {sc : Node → List Node} {n : Nat} {todo vis : List Node} (h : vis.Nodup) :
    (closure sc n todo vis).Nodup := by
  revert h
  fun_induction closure sc n todo vis with
  | case1 todo vis => exact id
  | case2 n todo vis hd => exact id
  | case3 n todo vis x t hd ih => exact fun h => ih (List.nodup_cons.mpr ⟨(dropVisited_cons hd).1, h⟩)

theorem reachable_in_closed {sc : Node → List Node} {roots r : List Node} (hroots : ∀ x ∈ roots, x ∈ r)
    (hcl : Closed sc [] r) {z : Node} (hz : Reachable sc roots z) : z ∈ r := by
  induction hz with
  | root hx => exact hroots _ hx
  | step _ hy ih =>
    rcases hcl _ ih _ hy with h | h
    · exact h
    · cases h

theorem mem_closure_iff {sc : Node → List Node} {U todo : List Node} (hU : ∀ x, ∀ y ∈ sc x, y ∈ U)
    (htodo : ∀ x ∈ todo, x ∈ U) {n : Nat} (hn : U.length ≤ n) {x : Node} :
    x ∈ closure sc n todo [] ↔ Reachable sc todo x := by
  constructor
  · intro h
    exact (closure_sound _ _ _ _ x h).resolve_left List.not_mem_nil
  · have hc := closure_complete sc U hU n todo [] htodo (Nat.le_trans List.countP_le_length hn) (fun _ h => nomatch h)
    exact reachable_in_closed hc.2.1 hc.2.2

end Memento.Version
