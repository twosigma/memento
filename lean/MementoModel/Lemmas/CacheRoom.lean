import MementoModel.Lemmas.CacheLemmas
import MementoModel.Model.Store

/-! When there is room, a `put` drops nothing: the memento-only entries that `get_mementos` writes for cache misses leave
    every resident entry as it is; without a miss it writes nothing (the backend-level clause of C06). -/
namespace Memento.Cache

theorem evict_lookup_ne (s : State) {k k' : Key} (h : k ≠ k') : lookup (evict s k').cache k = lookup s.cache k := by
  rw [evict_cache]; exact lookup_remove_of_ne h

theorem makeRoom_noop (size n : Nat) (s : State) (h : s.usage + size ≤ s.budget) : makeRoom size n s = s := by
  cases n with
  | zero => rfl
  | succ n =>
    unfold makeRoom
    split
    · rfl
    · exact if_neg (by omega)

theorem putCore_lookup_ne_room (s : State) {k k' : Key} (m v size : Nat) (hr : Bool) (h : k ≠ k')
    (hroom : s.usage + size ≤ s.budget) :
    lookup (putCore s k' m v size hr).cache k = lookup s.cache k ∧
    (putCore s k' m v size hr).usage ≤ s.usage + size ∧ (putCore s k' m v size hr).budget = s.budget := by
  have h1 : (evict s k').usage + size ≤ (evict s k').budget := by
    have := evict_usage_le s k'; rw [evict_budget]; omega
  unfold putCore touchStamp
  simp only [makeRoom_noop size _ (evict s k') h1]
  refine ⟨?_, ?_, evict_budget s k'⟩
  · rw [lookup_append_of_ne (Ne.symm h), evict_lookup_ne s h]
  · have := evict_usage_le s k'; omega

theorem put_lookup_ne_room (s : State) {k k' : Key} (m v size : Nat) (w hr : Bool) (vc : Option Nat) (h : k ≠ k')
    (hroom : s.usage + size ≤ s.budget) :
    lookup (put s k' m v size w hr vc).cache k = lookup s.cache k ∧
    (put s k' m v size w hr vc).usage ≤ s.usage + size ∧ (put s k' m v size w hr vc).budget = s.budget :=
  put_cases (P := fun s' => lookup s'.cache k = lookup s.cache k ∧ s'.usage ≤ s.usage + size ∧ s'.budget = s.budget)
    s k' m v size w hr vc
    (fun r _ => ⟨evict_lookup_ne _ h,
      Int.le_trans (evict_usage_le { s with refs := r } k') (Int.le_add_of_nonneg_right (Int.natCast_nonneg _)),
      evict_budget _ k'⟩)
    fun r _ => putCore_lookup_ne_room { s with refs := r } m _ size hr h hroom

end Memento.Cache

namespace Memento.Store.FsBackend
open Memento

/-- 16 bytes: the size of a memento-only entry (`sys.getsizeof(None)`) -/
theorem fetchMemento_keeps {s : FsBackend} {c : Cache.State} (hc : s.cache = some c) {k : Cache.Key} {e : Cache.Entry}
    (he : Cache.lookup c.cache k = some e) {fn : Fn} {arg : Arg} (hk : ckey fn arg ≠ k)
    (hroom : c.usage + 16 ≤ c.budget) :
    ∃ c', (fetchMemento s fn arg).1.cache = some c' ∧ Cache.lookup c'.cache k = some e ∧
      c'.usage ≤ c.usage + 16 ∧ c'.budget = c.budget := by
  unfold fetchMemento
  cases readMemento s.ds fn arg with
  | none => exact ⟨c, hc, he, by omega, rfl⟩
  | some mc =>
    obtain ⟨m, ck⟩ := mc
    obtain ⟨h1, h2, h3⟩ :=
      Cache.put_lookup_ne_room c (k' := ckey fn arg) m (objId none 0) 16 false false none (Ne.symm hk) hroom
    simp only [cachePut, hc]
    -- with `put …` still in sight the unifier would compare `prune (put …)` with `put …` by unfolding `put`
    generalize Cache.put c (ckey fn arg) m (objId none 0) 16 false false none = c1 at h1 h2 h3 ⊢
    exact ⟨_, rfl, h1.trans he, h2, h3⟩

theorem mergeMementos_keeps {s : FsBackend} {c : Cache.State} (hc : s.cache = some c) {k : Cache.Key} {e : Cache.Entry}
    (he : Cache.lookup c.cache k = some e) {l : List ((Fn × Arg) × Option Nat)}
    (hne : ∀ p ∈ l, p.2 = none → ckey p.1.1 p.1.2 ≠ k) (hroom : c.usage + 16 * l.length ≤ c.budget) :
    ∃ c', (mergeMementos s l).1.cache = some c' ∧ Cache.lookup c'.cache k = some e := by
  fun_induction mergeMementos s l generalizing c with
  | case1 s => exact ⟨c, hc, he⟩
  | case2 s fn arg rest m s2 ms hrec ih =>
    rw [List.length_cons] at hroom
    have := ih hc he (fun p hp => hne p (List.mem_cons_of_mem _ hp)) (by omega)
    rwa [hrec] at this
  | case3 s fn arg rest s1 m hf s2 ms hrec ih =>
    rw [List.length_cons] at hroom
    obtain ⟨c', hc', he', hu, hb⟩ := fetchMemento_keeps hc he (hne _ List.mem_cons_self rfl) (by omega)
    rw [hf] at hc'
    have := ih hc' he' (fun p hp => hne p (List.mem_cons_of_mem _ hp)) (by omega)
    rwa [hrec] at this

theorem mergeMementos_all_cached (s : FsBackend) (l : List ((Fn × Arg) × Option Nat))
    (h : ∀ p ∈ l, p.2.isSome) : mergeMementos s l = (s, l.map (·.2)) := by
  fun_induction mergeMementos s l with
  | case1 s => rfl
  | case2 s fn arg rest m s2 ms hrec ih =>
    rw [ih (fun p hp => h p (List.mem_cons_of_mem _ hp))] at hrec
    cases hrec; rfl
  | case3 s fn arg rest s1 m hf s2 ms hrec ih => exact absurd (h _ List.mem_cons_self) (by simp)

theorem cacheLookup_none_ne {s : FsBackend} {c : Cache.State} (hc : s.cache = some c) {k : Cache.Key} {e : Cache.Entry}
    (he : Cache.lookup c.cache k = some e) {fn : Fn} {arg : Arg} (h : cacheLookup s fn arg = none) : ckey fn arg ≠ k := by
  intro hk
  unfold cacheLookup at h
  rw [hc] at h
  simp only [hk, he, Option.map_some] at h
  exact absurd h (by simp)

end Memento.Store.FsBackend
