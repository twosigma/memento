import MementoModel.Lemmas.StoreAbs
import MementoModel.Lemmas.CrashInv

/-! C08: a primitive under its side condition `PrimOk` keeps the crash-closed invariant and is invisible to every
    call whose memento link it does not touch; only the last primitive of `memoizePrims` touches one, so `memoize`
    is atomic for later calls. -/
namespace Memento.Store
open Memento

theorem CrashWF.mOk {d : DS} (h : CrashWF d) : MementoOk d := h.mementoOk

theorem alookup_cons_fresh {objs : List ((K × Ver) × Content)} {k : K} {v : Ver} {c : Content} {k' : K} {v' : Ver}
    (h : v' < v) : alookup (((k, v), c) :: objs) (k', v') = alookup objs (k', v') := by
  rw [alookup_cons, if_neg]
  intro e; injection e with _ e
  exact Nat.lt_irrefl _ (e ▸ h)

theorem objsExt_cons_fresh {d d' : DS} (h : ∀ p ∈ d.objs, p.1.2 < d.next) {k : K} {v : Ver} {c : Content}
    (hv : d.next ≤ v) (ho : d'.objs = ((k, v), c) :: d.objs) : ObjsExt d d' := by
  intro kv c' hc
  rw [ho, alookup_cons_fresh (Nat.lt_of_lt_of_le (h _ (alookup_mem hc)) hv)]
  exact hc

theorem callOutcome_of_read {d : DS} {fn arg m ck v} (hr : FsBackend.readMemento d fn arg = some (m, ck))
    (hl : FsBackend.loadResult d ck = some v) : callOutcome d fn arg = .served v := by
  have hi := DS.inputNV_eq_some.mpr (FsBackend.readMemento_eq.mp hr)
  simp only [callOutcome, hi]
  cases ck with
  | none => cases hl; rfl
  | some kv =>
    obtain ⟨k, v'⟩ := kv
    simp only [FsBackend.loadResult] at hl ⊢
    split at hl
    · rename_i b hb; cases hl; simp only [hb]
    · cases hl

theorem MementoOk.callOutcome {d : DS} (h : MementoOk d) (fn : Fn) (arg : Arg) :
    callOutcome d fn arg = match FsBackend.storeEntry d fn arg with
      | some x => .served x.2.2
      | none => .computed := by
  cases hlk : alookup d.links (.memento fn arg) with
  | none =>
    rw [FsBackend.storeEntry_eq, FsBackend.readMemento_none_of_link hlk]
    simp only [Memento.Store.callOutcome, DS.inputNV_none_of_link hlk, Option.map_none]
  | some v =>
    obtain ⟨m, ck, hr, hck⟩ := h.readMemento_of_link hlk
    obtain ⟨val, hval⟩ := FsBackend.loadResult_of_ckOk hck
    rw [callOutcome_of_read hr hval, FsBackend.storeEntry_of_read hr, hval]; rfl

theorem callOutcome_congr {d d' : DS} (h : MementoOk d) (h' : MementoOk d') (fn : Fn) (arg : Arg)
    (hl : alookup d'.links (.memento fn arg) = alookup d.links (.memento fn arg))
    (ho : ObjsExt d d') : callOutcome d' fn arg = callOutcome d fn arg := by
  rw [h.callOutcome, h'.callOutcome, h.storeEntry_frame fn arg hl ho]

namespace Prim

def linkKey? : Prim → Option K
  | .replaceLink k _ => some k
  | .removeLink k => some k
  | _ => none

end Prim

/-- what `CrashWF` (`mementoOk`, `contentOk`) asks of the version `v` that the link of `k` names -/
def LinkOk (d : DS) : K → Ver → Prop
  | .memento fn arg, v => ∃ m ck, alookup d.objs (.memento fn arg, v) = some (.mrec m ck) ∧ CkOk d ck
  | .content h, v => ∀ c, alookup d.objs (.content h, v) = some c → c = .blob h
  | _, _ => True

theorem CrashWF.linkOk {d : DS} (h : CrashWF d) {k : K} {v : Ver} (hl : alookup d.links k = some v) : LinkOk d k v := by
  cases k with
  | memento fn arg => exact h.mementoOk fn arg v hl
  | content hh => exact fun c => h.contentOk hh v c hl
  | _ => trivial

theorem CrashWF.of_linkOk {d : DS} (h1 : ∀ p ∈ d.objs, p.1.2 < d.next) (h2 : ∀ p ∈ d.links, p.2 < d.next)
    (h3 : ∀ k v, alookup d.links k = some v → LinkOk d k v) : CrashWF d :=
  ⟨h1, h2, fun _ _ v hl => h3 _ v hl, fun _ v c hl => h3 _ v hl c⟩

/-- side condition under which a primitive keeps the invariant: version files get fresh uuids; a link is only
    pointed at a version the invariant accepts (the file is written in full before the rename) -/
def PrimOk (d : DS) : Prim → Prop
  | .writeObj _ v _ => d.next ≤ v
  | .replaceLink k v => v < d.next ∧ LinkOk d k v
  | _ => True

theorem writeObj_crashwf {d : DS} (h : CrashWF d) (k : K) (v : Ver) (c : Content) (hv : d.next ≤ v) :
    CrashWF { d with objs := ((k, v), c) :: d.objs, next := max d.next (v + 1) } := by
  have hext : ObjsExt d { d with objs := ((k, v), c) :: d.objs, next := max d.next (v + 1) } :=
    objsExt_cons_fresh h.objFresh hv rfl
  have hmax : ∀ x : Nat, x < d.next → x < max d.next (v + 1) := fun x hx => Nat.lt_of_lt_of_le hx (Nat.le_max_left _ _)
  refine .of_linkOk ?_ (fun p hp => hmax _ (h.linkFresh p hp)) ?_
  · intro p hp
    rcases List.mem_cons.mp hp with rfl | hp
    · exact Nat.lt_of_lt_of_le (Nat.lt_succ_self v) (Nat.le_max_right _ _)
    · exact hmax _ (h.objFresh p hp)
  · intro k' v' hl
    have hok := h.linkOk hl
    cases k' with
    | memento fn arg =>
      obtain ⟨m, ck, ho, hck⟩ := hok
      exact ⟨m, ck, hext _ _ ho, (hck.ext hext).1⟩
    | content hh =>
      intro c' ho
      have hlt : v' < v := Nat.lt_of_lt_of_le (h.linkFresh _ (alookup_mem hl)) hv
      exact hok c' ((alookup_cons_fresh hlt).symm.trans ho)
    | _ => trivial

theorem apply_crashwf {d : DS} (h : CrashWF d) (p : Prim) (hp : PrimOk d p) : CrashWF (p.apply d) := by
  cases p with
  | writeObj k v c => exact writeObj_crashwf h k v c hp
  | writeTmp => exact h
  | replaceLink k v =>
    refine .of_linkOk h.objFresh ?_ ?_
    · intro p hp'
      rcases mem_aset hp' with rfl | ⟨hp', _⟩
      · exact hp.1
      · exact h.linkFresh p hp'
    · intro k' v' hl
      simp only [Prim.apply, alookup_aset] at hl
      split at hl
      · rename_i e; cases hl; rw [e]; exact hp.2
      · exact h.linkOk hl
  | removeLink k =>
    refine .of_linkOk h.objFresh (fun p hp' => h.linkFresh p (List.mem_filter.mp hp').1) ?_
    intro k' v' hl
    simp only [Prim.apply, alookup_adel] at hl
    split at hl
    · cases hl
    · exact h.linkOk hl

theorem callOutcome_apply {d : DS} (h : CrashWF d) (p : Prim) (hp : PrimOk d p) (fn : Fn) (arg : Arg)
    (hk : p.linkKey? ≠ some (.memento fn arg)) : callOutcome (p.apply d) fn arg = callOutcome d fn arg := by
  refine callOutcome_congr h.mOk (apply_crashwf h p hp).mOk fn arg ?_ ?_
  · cases p with
    | writeObj k v c => rfl
    | writeTmp => rfl
    | replaceLink k v =>
      simp only [Prim.apply, alookup_aset]
      exact if_neg fun e => hk (by rw [e]; rfl)
    | removeLink k =>
      simp only [Prim.apply, alookup_adel]
      exact if_neg fun e => hk (by rw [e]; rfl)
  · cases p with
    | writeObj k v c => exact objsExt_cons_fresh h.objFresh hp rfl
    | _ => exact ObjsExt.refl d

theorem applyTorn_inv {d : DS} (h : CrashWF d) (p : Prim) (hp : PrimOk d p) :
    CrashWF (p.applyTorn d) ∧ ∀ fn arg, callOutcome (p.applyTorn d) fn arg = callOutcome d fn arg := by
  cases p with
  | writeObj k v c =>
    have hwf := writeObj_crashwf h k v .torn hp
    exact ⟨hwf, fun fn arg => callOutcome_congr h.mOk hwf.mOk fn arg rfl (objsExt_cons_fresh h.objFresh hp rfl)⟩
  | _ => exact ⟨h, fun _ _ => rfl⟩

/-- every primitive satisfies its side condition in the state it is executed in -/
def AllOk : DS → List Prim → Prop
  | _, [] => True
  | d, p :: ps => PrimOk d p ∧ AllOk (p.apply d) ps

theorem allOk_append {ps qs : List Prim} {d : DS} :
    AllOk d (ps ++ qs) ↔ AllOk d ps ∧ AllOk (ps.foldl Prim.apply d) qs := by
  induction ps generalizing d with
  | nil => simp [AllOk]
  | cons p ps ih => simp only [List.cons_append, AllOk, List.foldl_cons, ih, and_assoc]

theorem foldl_crashwf {d : DS} (h : CrashWF d) {ps : List Prim} (hok : AllOk d ps) :
    CrashWF (ps.foldl Prim.apply d) := by
  induction ps generalizing d with
  | nil => exact h
  | cons p ps ih => exact ih (apply_crashwf h p hok.1) hok.2

theorem variant_nil (d : DS) (n : Nat) (torn : Bool) : variant d [] n torn = d := by
  cases torn <;> simp [variant]

theorem variant_cons_zero (d : DS) (p : Prim) (ps : List Prim) (torn : Bool) :
    variant d (p :: ps) 0 torn = if torn then p.applyTorn d else d := by
  cases torn <;> simp [variant]

theorem variant_cons_succ (d : DS) (p : Prim) (ps : List Prim) (n : Nat) (torn : Bool) :
    variant d (p :: ps) (n + 1) torn = variant (p.apply d) ps n torn := by
  cases torn <;> simp [variant]

theorem variant_of_length_le {d : DS} {ps : List Prim} {n : Nat} (h : ps.length ≤ n) {torn : Bool} :
    variant d ps n torn = ps.foldl Prim.apply d := by
  simp [variant, List.take_of_length_le h, List.getElem?_eq_none h]

theorem variant_inv {d : DS} (h : CrashWF d) {ps : List Prim} (hok : AllOk d ps) (n : Nat) (torn : Bool) :
    CrashWF (variant d ps n torn) ∧
      ∀ fn arg, (∀ p ∈ ps.take n, p.linkKey? ≠ some (.memento fn arg)) →
        callOutcome (variant d ps n torn) fn arg = callOutcome d fn arg := by
  induction ps generalizing d n with
  | nil => rw [variant_nil]; exact ⟨h, fun _ _ _ => rfl⟩
  | cons p ps ih =>
    cases n with
    | zero =>
      rw [variant_cons_zero]
      cases torn with
      | false => exact ⟨h, fun _ _ _ => rfl⟩
      | true => exact ⟨(applyTorn_inv h p hok.1).1, fun fn arg _ => (applyTorn_inv h p hok.1).2 fn arg⟩
    | succ n =>
      rw [variant_cons_succ]
      obtain ⟨a, b⟩ := ih (apply_crashwf h p hok.1) hok.2 n
      refine ⟨a, fun fn arg hk => ?_⟩
      rw [b fn arg (fun q hq => hk q (List.mem_cons_of_mem _ hq))]
      exact callOutcome_apply h p hok.1 fn arg (hk p List.mem_cons_self)

def DataOnly (ps : List Prim) : Prop := ∀ p ∈ ps, ∀ k, p.linkKey? = some k → k.isMetaArea = false

theorem DataOnly.append {ps qs : List Prim} (h1 : DataOnly ps) (h2 : DataOnly qs) : DataOnly (ps ++ qs) :=
  List.forall_mem_append.mpr ⟨h1, h2⟩

/-- the three primitives of `output(key, data)` -/
theorem output_allOk {d : DS} {k : K} {v : Ver} {c : Content} (hv : d.next ≤ v)
    (hc : LinkOk (Prim.apply d (.writeObj k v c)) k v) : AllOk d [.writeObj k v c, .writeTmp, .replaceLink k v] :=
  ⟨hv, trivial, ⟨Nat.lt_of_lt_of_le (Nat.lt_succ_self v) (Nat.le_max_right _ _), hc⟩, trivial⟩

theorem output_eq_prims (d : DS) (k : K) (c : Content) :
    (d.output k c).1 = [Prim.writeObj k d.next c, .writeTmp, .replaceLink k d.next].foldl Prim.apply d := by
  show _ = DS.mk _ _ (max d.next (d.next + 1))
  rw [Nat.max_eq_right (Nat.le_succ d.next)]
  rfl

/-- `ps` are harmless writes to the data area of `d`, after which `ck` names a complete blob holding `ob`
    (`none`: the null result) and no uuid from `v` on is in use -/
structure DataWrites (d : DS) (ps : List Prim) (ck : Option (K × Ver)) (ob : Option Bytes) (v : Ver) : Prop where
  ok : AllOk d ps
  dataOnly : DataOnly ps
  next : (ps.foldl Prim.apply d).next ≤ v
  ck : CkHolds (ps.foldl Prim.apply d) ck ob

theorem DataWrites.nil {d : DS} {v : Ver} (hv : d.next ≤ v) : DataWrites d [] none none v :=
  ⟨trivial, List.forall_mem_nil _, hv, CkHolds.null d⟩

theorem DataWrites.append {d : DS} {ps qs ck ob v ck' ob' v'} (h1 : DataWrites d ps ck ob v)
    (h2 : DataWrites (ps.foldl Prim.apply d) qs ck' ob' v') : DataWrites d (ps ++ qs) ck' ob' v' := by
  refine ⟨allOk_append.mpr ⟨h1.ok, h2.ok⟩, h1.dataOnly.append h2.dataOnly, ?_, ?_⟩
  · rw [List.foldl_append]; exact h2.next
  · rw [List.foldl_append]; exact h2.ck

theorem output_dataWrites {d : DS} (k : K) (b : Bytes) (v : Ver) (hv : d.next ≤ v)
    (hk : k.isMetaArea = false) (hcont : ∀ hh, k = .content hh → hh = b) :
    DataWrites d [.writeObj k v (.blob b), .writeTmp, .replaceLink k v] (some (k, v)) (some b) (v + 1) := by
  have ho : alookup (((k, v), Content.blob b) :: d.objs) (k, v) = some (.blob b) := by rw [alookup_cons, if_pos rfl]
  refine ⟨output_allOk hv ?_, fun p hp k' hk' => ?_, ?_, CkHolds.blob hk ho⟩
  · cases k with
    | content hh => intro c hc; cases hc.symm.trans ho; rw [hcont hh rfl]
    | override o => trivial
    | _ => cases hk
  · simp only [List.mem_cons, List.not_mem_nil, or_false] at hp
    rcases hp with rfl | rfl | rfl
    · cases hk'
    · cases hk'
    · injection hk' with e; rw [← e]; exact hk
  · exact Nat.max_le.mpr ⟨Nat.le_succ_of_le hv, Nat.le_refl _⟩

theorem blobPrims_spec {d : DS} (h : CrashWF d) (ov : Option Nat) (b : Bytes) (v : Ver) (hv : d.next ≤ v) :
    DataWrites d (blobPrims d ov b v).1 (some (blobPrims d ov b v).2.1) (some b) (blobPrims d ov b v).2.2 := by
  fun_cases blobPrims d ov b v with
  | case1 o => exact output_dataWrites (.override o) b v hv rfl (fun _ e => nomatch e)
  | case2 hex v0 hl =>
    obtain ⟨v1, c, hl1, ho⟩ := DS.existsNV_iff.mp hex
    cases hl1.symm.trans hl
    cases h.contentOk b v0 c hl1 ho
    exact ⟨trivial, List.forall_mem_nil _, hv, CkHolds.blob rfl ho⟩
  | case3 hex hl =>
    obtain ⟨v1, c, hl1, ho⟩ := DS.existsNV_iff.mp hex
    cases hl1.symm.trans hl
  | case4 hex => exact output_dataWrites (.content b) b v hv rfl (fun _ e => by cases e; rfl)

theorem dataPrims_spec {d : DS} (h : CrashWF d) (ov : Option Nat) (bs : List Bytes) (v : Ver) (hv : d.next ≤ v) :
    DataWrites d (dataPrims d ov bs v).1 (dataPrims d ov bs v).2.1 bs.getLast? (dataPrims d ov bs v).2.2.2 := by
  fun_induction dataPrims d ov bs v with
  | case1 d v => exact .nil hv
  | case2 d b v ps ck v' hb =>
    have hb' := blobPrims_spec h ov b v hv
    rwa [hb] at hb'
  | case3 d b bs v ps ck v' hb d' ps2 ck2 d2 v2 hd hbs ih =>
    have hb' := blobPrims_spec h ov b v hv
    rw [hb] at hb'
    obtain ⟨b2, bs', rfl⟩ := List.exists_cons_of_ne_nil hbs
    rw [List.getLast?_cons_cons]
    exact hb'.append (ih (foldl_crashwf h hb'.ok) hb'.next)

theorem memoizePrims_shape {d : DS} (h : CrashWF d) (r : Request) :
    ∃ pre v ck, memoizePrims d r =
        pre ++ [.writeObj (.memento r.fn r.arg) v (.mrec r.mem ck), .writeTmp, .replaceLink (.memento r.fn r.arg) v] ∧
      DataWrites d pre ck r.blobs.getLast? v := by
  unfold memoizePrims
  cases hb : r.blobs with
  | nil =>
    refine ⟨_, d.next, none, rfl, ?_⟩
    cases r.override with
    | none => exact .nil (Nat.le_refl _)
    | some o =>
      show DataWrites d (if _ then [.removeLink (.override o)] else []) none none d.next
      split
      · refine ⟨⟨trivial, trivial⟩, fun p hp k hk => ?_, Nat.le_refl _, CkHolds.null _⟩
        cases List.mem_singleton.mp hp
        cases hk; rfl
      · exact .nil (Nat.le_refl _)
  | cons b bs =>
    have := dataPrims_spec h r.override (b :: bs) d.next (Nat.le_refl _)
    rcases hd : dataPrims d r.override (b :: bs) d.next with ⟨ps, ck, d2, v⟩
    rw [hd] at this
    exact ⟨ps, v, ck, rfl, this⟩

theorem memoizePrims_allOk {d : DS} (h : CrashWF d) (r : Request) : AllOk d (memoizePrims d r) := by
  obtain ⟨pre, v, ck, e, hpre⟩ := memoizePrims_shape h r
  rw [e]
  refine allOk_append.mpr ⟨hpre.ok, output_allOk hpre.next ⟨r.mem, ck, ?_, ?_⟩⟩
  · show alookup (_ :: _) _ = _
    rw [alookup_cons, if_pos rfl]
  · exact (hpre.ck.ckOk.ext (objsExt_cons_fresh (foldl_crashwf h hpre.ok).objFresh hpre.next rfl)).1

theorem memoizePrims_linkKeys {d : DS} (h : CrashWF d) (r : Request) {n : Nat} {p : Prim} {fn : Fn} {arg : Arg}
    (hp : p ∈ (memoizePrims d r).take n) (hk : p.linkKey? = some (.memento fn arg)) :
    (fn, arg) = (r.fn, r.arg) ∧ (memoizePrims d r).length ≤ n := by
  obtain ⟨pre, v, ck, e, hpre⟩ := memoizePrims_shape h r
  -- regrouped so that `take` sets the last primitive, the only one that touches a memento link, apart
  have e' := e.trans (List.append_assoc pre [_, _] [_]).symm
  rw [e', List.take_append] at hp
  rcases List.mem_append.mp hp with hp | hp
  · rcases List.mem_append.mp (List.mem_of_mem_take hp) with hp | hp
    · cases hpre.dataOnly p hp _ hk
    · simp only [List.mem_cons, List.not_mem_nil, or_false] at hp
      rcases hp with rfl | rfl
      · cases hk
      · cases hk
  · have hlt : (pre ++ [_, _]).length < n := Nat.lt_of_not_le fun hle => by
      rw [Nat.sub_eq_zero_of_le hle] at hp
      cases hp
    cases List.mem_singleton.mp (List.mem_of_mem_take hp)
    injection hk with e''; injection e'' with e1 e2
    refine ⟨by rw [e1, e2], ?_⟩
    rw [e', List.length_append, List.length_singleton]
    exact hlt

theorem memoizePrims_complete {d : DS} (h : CrashWF d) (r : Request) :
    callOutcome ((memoizePrims d r).foldl Prim.apply d) r.fn r.arg = .served r.blobs.getLast? := by
  obtain ⟨pre, v, ck, e, hpre⟩ := memoizePrims_shape h r
  rw [e, List.foldl_append]
  have hwf := foldl_crashwf h hpre.ok
  refine callOutcome_of_read (FsBackend.readMemento_eq (m := r.mem).mpr ⟨v, ?_, ?_⟩)
    ((hpre.ck.ckOk.ext (objsExt_cons_fresh hwf.objFresh hpre.next rfl)).2.trans hpre.ck.load)
  · show alookup (aset _ _ v) _ = _
    rw [alookup_aset, if_pos rfl]
  · show alookup (_ :: _) _ = _
    rw [alookup_cons, if_pos rfl]

/-- `memoize` is atomic for later calls: its last primitive, the rename of the memento link, is the commit point -/
theorem variant_callOutcome {d : DS} (h : CrashWF d) (r : Request) (n : Nat) (torn : Bool) (fn : Fn) (arg : Arg) :
    callOutcome (variant d (memoizePrims d r) n torn) fn arg =
      if (fn, arg) = (r.fn, r.arg) ∧ (memoizePrims d r).length ≤ n then .served r.blobs.getLast?
      else callOutcome d fn arg := by
  by_cases hc : (fn, arg) = (r.fn, r.arg) ∧ (memoizePrims d r).length ≤ n
  · rw [if_pos hc, variant_of_length_le hc.2]
    cases hc.1
    exact memoizePrims_complete h r
  · rw [if_neg hc]
    exact (variant_inv h (memoizePrims_allOk h r) n torn).2 fn arg
      (fun p hp hk => hc (memoizePrims_linkKeys h r hp hk))

/-- the data part of a single-blob request is `codecStore`, each `output` being its three primitives (`output_eq_prims`) -/
theorem memoizePrims_eq_codecStore (d : DS) (fn arg : Nat) (ov : Option Nat) (mem : Nat) (val : Option Bytes) :
    ∃ pre, memoizePrims d ⟨fn, arg, ov, mem, val.toList⟩ =
        pre ++ [.writeObj (.memento fn arg) (FsBackend.codecStore d ov val).1.next
            (.mrec mem (FsBackend.codecStore d ov val).2),
          .writeTmp, .replaceLink (.memento fn arg) (FsBackend.codecStore d ov val).1.next] ∧
      pre.foldl Prim.apply d = (FsBackend.codecStore d ov val).1 := by
  fun_cases FsBackend.codecStore d ov val with
  | case1 o =>
    -- null result under an override key: `codecStore` deletes the link whether or not there is one
    refine ⟨if (alookup d.links (.override o)).isSome then [.removeLink (.override o)] else [], rfl, ?_⟩
    cases hl : alookup d.links (.override o) with
    | none =>
      show d = { d with links := adel d.links (.override o) }
      rw [adel_of_not_mem (alookup_eq_none_iff.mp hl)]
    | some v => rfl
  | case2 => exact ⟨[], rfl, rfl⟩
  | case3 b o d' v hout =>
    cases hout
    exact ⟨_, rfl, (output_eq_prims d (.override o) (.blob b)).symm⟩
  | case4 b hex v hg =>
    -- the blob is linked already: nothing is written, the memento names the linked version
    refine ⟨[], ?_, rfl⟩
    simp only [memoizePrims, dataPrims, blobPrims, Option.toList, hex, hg, if_true]
  | case5 b hex hg =>
    obtain ⟨v', c, hl, ho⟩ := DS.existsNV_iff.mp hex
    cases hl.symm.trans hg
  | case6 b hex d' v hout =>
    cases hout
    refine ⟨_, ?_, (output_eq_prims d (.content b) (.blob b)).symm⟩
    simp only [memoizePrims, dataPrims, blobPrims, Option.toList, hex]
    rfl

/-- the tie between the two models of `memoize`, for single-blob requests -/
theorem memoizePrims_foldl_eq (d : DS) (sep : Bool) (fn arg : Nat) (ov : Option Nat) (mem : Nat) (val : Option Bytes)
    (sz : Nat) (wr : Bool) :
    (memoizePrims d ⟨fn, arg, ov, mem, val.toList⟩).foldl Prim.apply d =
      DS.step sep d (.memoize fn arg ov mem val sz wr) := by
  obtain ⟨pre, e, hpre⟩ := memoizePrims_eq_codecStore d fn arg ov mem val
  rw [e, List.foldl_append, hpre]
  exact (output_eq_prims (FsBackend.codecStore d ov val).1 _ _).symm

end Memento.Store
