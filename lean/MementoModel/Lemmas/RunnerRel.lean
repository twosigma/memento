import MementoModel.Lemmas.RunnerExt

/-!
  The runner touches a state only through `St.get`, `St.put` of a memoizable record, and the trace push; a
  relation on states that these respect is preserved by `run` in lock step, at any larger fuel on the right.
  `Eq` gives fuel monotonicity, "both disabled" independence from the start state, `a = b ∧ I a` invariants.
-/
namespace Memento.Runner

structure StRel (R : St → St → Prop) : Prop where
  get : ∀ {s1 s2}, R s1 s2 → ∀ k, s1.get k = s2.get k
  push : ∀ {s1 s2}, R s1 s2 → ∀ k, R { s1 with trace := s1.trace ++ [k] } { s2 with trace := s2.trace ++ [k] }
  put : ∀ {s1 s2}, R s1 s2 → ∀ k r, isNonMemo r.out = false → R (s1.put k r) (s2.put k r)

theorem StRel.eq : StRel Eq :=
  ⟨fun h _ => h ▸ rfl, fun h _ => h ▸ rfl, fun h _ _ _ => h ▸ rfl⟩

theorem StRel.dis : StRel (fun s1 s2 => Dis s1 ∧ Dis s2) :=
  ⟨fun h k => by rw [St.get_disabled h.1, St.get_disabled h.2], fun h _ => h,
   fun h k r _ => by rw [St.put_disabled h.1, St.put_disabled h.2]; exact h⟩

theorem StRel.inv {I : St → Prop} (push : ∀ s k, I s → I { s with trace := s.trace ++ [k] })
    (put : ∀ s k r, I s → isNonMemo r.out = false → I (s.put k r)) : StRel (fun a b => a = b ∧ I a) :=
  ⟨fun h _ => h.1 ▸ rfl, fun h k => ⟨h.1 ▸ rfl, push _ k h.2⟩, fun h k r hr => ⟨h.1 ▸ rfl, put _ k r h.2 hr⟩⟩

def CalleeRel (R : St → St → Prop)
    (c c' : St → Frame → Fn → List Val → CtxSpec → Flags → Option BatchResult) : Prop :=
  ∀ {s1 s2 fr fn args ctx fl s1' x}, R s1 s2 → c s1 fr fn args ctx fl = some (s1', x) →
    ∃ s2', R s1' s2' ∧ c' s2 fr fn args ctx fl = some (s2', x)

def ExecRel (R : St → St → Prop) (e e' : Body → St → Frame → Option (St × Outcome × Frame)) : Prop :=
  ∀ ⦃b s1 s2 fr s1' x⦄, R s1 s2 → e b s1 fr = some (s1', x) → ∃ s2', R s1' s2' ∧ e' b s2 fr = some (s2', x)

variable {R : St → St → Prop}

theorem execBody_rel {c c'} (hc : CalleeRel R c c') : ExecRel R (execBody c) (execBody c') := by
  intro b s1 s2 fr s1' x hr h
  fun_induction execBody c b s1 fr generalizing s2
  case case1 =>  -- `.ret`
    cases h
    exact ⟨s2, hr, rfl⟩
  case case2 ih => exact ih hr h  -- `.resource`
  case case3 | case6 | case7 => cases h  -- no result
  case case4 hc1 ih | case5 hc1 ih | case8 hc1 ih =>  -- `.call`, `.batch`
    obtain ⟨sb, hrb, hc2⟩ := hc hr hc1
    simp only [execBody, hc2]
    exact ih hrb h

theorem storeAfter_rel (hR : StRel R) {s1 s2 : St} (h : R s1 s2) {key : Key} {o : Outcome} {r : Rec} (ho : r.out = o) :
    R (storeAfter s1 key o r) (storeAfter s2 key o r) := by
  unfold storeAfter
  rw [hR.get h key]
  cases hn : isNonMemo o with
  | true => exact h
  | false =>
    cases (s2.get key).isSome with
    | true => exact h
    | false => exact hR.put h key r (ho ▸ hn)

theorem runLocal_rel (hR : StRel R) {P : Prog} {e e'} (he : ExecRel R e e') {s1 s2 s1' : St} {key : Key}
    {fl : Flags} {o : Outcome} {r : Rec} (hr : R s1 s2) (h : runLocal P e s1 key fl = some (s1', o, r)) :
    ∃ s2', R s1' s2' ∧ runLocal P e' s2 key fl = some (s2', o, r) := by
  cases hg : s1.get key with
  | some r0 =>
    rw [runLocal_hit hg] at h
    cases h
    rw [hR.get hr] at hg
    exact ⟨s2, hr, runLocal_hit hg⟩
  | none =>
    obtain ⟨sa, ob, fr1, hx, rfl, rfl, rfl⟩ := runLocal_miss_inv hg h
    obtain ⟨sb, hrb, hx2⟩ := he (hR.push hr key) hx
    rw [hR.get hr] at hg
    rw [runLocal_miss hg, hx2]
    exact ⟨_, storeAfter_rel hR hrb rfl, rfl⟩

theorem seqLocal_rel (hR : StRel R) {P : Prog} {e e'} (he : ExecRel R e e') {fl : Flags} {keys : List Key}
    {s1 s2 s1' : St} {x} (hr : R s1 s2) (h : seqLocal P e fl s1 keys = some (s1', x)) :
    ∃ s2', R s1' s2' ∧ seqLocal P e' fl s2 keys = some (s2', x) := by
  fun_induction seqLocal P e fl s1 keys generalizing s2 x
  case case1 =>  -- `[]`
    cases h
    exact ⟨s2, hr, rfl⟩
  case case2 | case3 => cases h  -- no result
  case case4 hl _ _ _ hb ih =>  -- `key :: keys`
    cases h
    obtain ⟨sb, hrb, hl2⟩ := runLocal_rel hR he hr hl
    obtain ⟨sd, hrd, hb2⟩ := ih hrb hb
    refine ⟨sd, hrd, ?_⟩
    simp only [seqLocal, hl2, hb2]

theorem run_rel (hR : StRel R) (P : Prog) : ∀ {n m : Nat}, n ≤ m → ∀ {s1 s2 s1' : St} {caller : Option Frame} {fn : Fn}
    {args : List Val} {ctx : CtxSpec} {fl : Flags} {x}, R s1 s2 →
    run P n s1 caller fn args ctx fl = some (s1', x) → ∃ s2', R s1' s2' ∧ run P m s2 caller fn args ctx fl = some (s2', x) := by
  intro n
  induction n with
  | zero => intros; contradiction  -- `run P 0 … = none`
  | succ n ih =>
    intro m hnm s1 s2 _ _ _ _ _ _ ⟨res, recs⟩ hr h
    obtain _ | m := m
    · cases hnm
    have he : ExecRel R (E P n) (E P m) :=
      execBody_rel (c := calleeAt P n) (c' := calleeAt P m) fun hr hc => ih (Nat.le_of_succ_le_succ hnm) hr hc
    rw [run_succ] at h
    rw [run_succ, runBatchWith_nf (E_ext P m)]
    rcases runBatchWith_inv (E_ext P n) h with ⟨hu, rfl, rfl, rfl⟩ | ⟨hu, hp, rfl, rfl, rfl⟩ | ⟨hu, hp, os, rfl, hb⟩
    · rw [hu]
      exact ⟨s2, hr, rfl⟩
    · rw [hu, hp]
      exact ⟨s2, hr, rfl⟩
    · obtain ⟨sb, hrb, hb2⟩ := seqLocal_rel hR he hr hb
      rw [hu, hp]
      simp only [hb2]
      exact ⟨sb, hrb, rfl⟩

theorem E_rel (hR : StRel R) (P : Prog) {n m : Nat} (hnm : n ≤ m) : ExecRel R (E P n) (E P m) :=
  execBody_rel (c := calleeAt P n) (c' := calleeAt P m) fun hr hc => run_rel hR P hnm hr hc

theorem run_le (P : Prog) {n m : Nat} (hnm : n ≤ m) {s : St} {c : Option Frame} {fn : Fn} {args : List Val}
    {ctx : CtxSpec} {fl : Flags} {x} (h : run P n s c fn args ctx fl = some x) :
    run P m s c fn args ctx fl = some x := by
  obtain ⟨_, rfl, h'⟩ := run_rel StRel.eq P hnm rfl h
  exact h'

theorem E_le (P : Prog) {n m : Nat} (hnm : n ≤ m) {b : Body} {s : St} {fr : Frame} {x}
    (h : E P n b s fr = some x) : E P m b s fr = some x := by
  obtain ⟨_, rfl, h'⟩ := E_rel StRel.eq P hnm rfl h
  exact h'

theorem run_inv {I : St → Prop} (push : ∀ s k, I s → I { s with trace := s.trace ++ [k] })
    (put : ∀ s k r, I s → isNonMemo r.out = false → I (s.put k r)) (P : Prog) {n : Nat} {s s' : St}
    {caller : Option Frame} {fn : Fn} {args : List Val} {ctx : CtxSpec} {fl : Flags} {x} (hs : I s)
    (h : run P n s caller fn args ctx fl = some (s', x)) : I s' := by
  obtain ⟨_, ⟨rfl, hI⟩, _⟩ := run_rel (StRel.inv push put) P (Nat.le_refl n) ⟨rfl, hs⟩ h
  exact hI

theorem run_added_memoizable (P : Prog) {n : Nat} {s s' : St} {caller : Option Frame} {fn : Fn} {args : List Val}
    {ctx : CtxSpec} {fl : Flags} {x} (h : run P n s caller fn args ctx fl = some (s', x)) {k : Key} {r : Rec}
    (hr : s'.get k = some r) : s.get k = some r ∨ isNonMemo r.out = false := by
  refine run_inv (I := fun a => ∀ k r, a.get k = some r → s.get k = some r ∨ isNonMemo r.out = false)
    (fun _ _ h => h) (fun a k' r' ha hn k r hg => ?_) P (fun _ _ h => .inl h) h k r hr
  rcases St.get_put_cases hg with ⟨_, rfl, _⟩ | ⟨_, hg'⟩
  · exact .inr hn
  · exact ha k r hg'

end Memento.Runner
