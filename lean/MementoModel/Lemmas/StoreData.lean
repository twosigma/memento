import MementoModel.Lemmas.StoreAbs

/-! Lemmas for C07: what each backend operation does to the *data area* (content / override keys)
    of the object store. -/
namespace Memento.Store
open Memento

/-- C07 on the invariant: a content key never has two version files -/
theorem DSWF.content_unique {d : DS} (h : DSWF d) (hh : Bytes) :
    (d.objs.filter (fun p => p.1.1 == K.content hh)).length ≤ 1 := by
  apply filter_key_length_le_one d.objs (fun kv => kv.1 == K.content hh) h.objNodup
  intro ⟨⟨k1, v1⟩, c1⟩ hp ⟨⟨k2, v2⟩, c2⟩ hq hP1 hP2
  have e1 : k1 = K.content hh := by simpa using hP1
  have e2 : k2 = K.content hh := by simpa using hP2
  subst e1 e2
  obtain ⟨_, h1⟩ := exists_alookup_of_mem hp
  obtain ⟨_, h2⟩ := exists_alookup_of_mem hq
  have l1 := h.contentLinked hh v1 (by rw [h1]; rfl)
  have l2 := h.contentLinked hh v2 (by rw [h2]; rfl)
  rw [l1] at l2
  cases l2; rfl

/-- the version files outside the metadata area -/
def DS.dataObjs (d : DS) : List ((K × Ver) × Content) := d.objs.filter (fun p => !p.1.1.isMetaArea)

theorem DS.dataObjs_deleteWhere {d : DS} {sel : K → Bool} (hmeta : ∀ k, sel k = true → k.isMetaArea = true) :
    (d.deleteWhere sel).dataObjs = d.dataObjs := by
  show (d.objs.filter (fun p => !(sel p.1.1))).filter (fun p => !p.1.1.isMetaArea) = _
  rw [List.filter_filter]
  apply List.filter_congr
  intro p _
  cases hs : sel p.1.1 with
  | false => simp
  | true => simp [hmeta _ hs]

theorem DS.dataObjs_output_meta (d : DS) {k : K} {c : Content} (hk : k.isMetaArea = true) :
    (d.output k c).1.dataObjs = d.dataObjs := by
  show (((k, d.next), c) :: d.objs).filter (fun p => !p.1.1.isMetaArea) = _
  rw [List.filter_cons]
  simp [hk, DS.dataObjs]

namespace FsBackend

theorem codecStore_existing (d : DS) (b : Bytes) (hex : d.existsNV (.content b) = true) :
    (codecStore d none (some b)).1 = d := by
  simp only [codecStore, hex, if_true]
  cases d.getVersioned (.content b) <;> rfl

theorem codecStore_fresh (d : DS) (b : Bytes) (hex : d.existsNV (.content b) = false) :
    (codecStore d none (some b)).1 = (d.output (.content b) (.blob b)).1 := by
  simp only [codecStore, hex, Bool.false_eq_true, if_false]

end FsBackend

theorem DS.step_objsExt {d : DS} (h : DSWF d) (sep : Bool) (op : Op) (hadm : DS.admissible d op)
    (hop : op.isForget = false) : ObjsExt d (DS.step sep d op) := by
  cases op with
  | memoize fn arg ov mem val sz wr =>
    obtain ⟨hstep, _⟩ := FsBackend.codecStore_spec h ov val hadm
    exact hstep.ext.trans (ObjsExt.output hstep.wf _ _)
  | wmeta fn arg k b => exact ObjsExt.output h _ _
  | fcall | ffn | fall => cases hop
  | _ => exact ObjsExt.refl d

theorem DS.step_inputV {d : DS} (h : DSWF d) (sep : Bool) (op : Op) (hadm : DS.admissible d op)
    (hw : Op.wipesData sep op = false) {k : K} {v : Ver} {c : Content}
    (hk : k.isMetaArea = false) (hc : d.inputV k v = some c) : (DS.step sep d op).inputV k v = some c := by
  cases hf : op.isForget with
  | false => exact DS.step_objsExt h sep op hadm hf _ _ hc
  | true =>
    rw [DS.step_forget sep d op hf, DS.inputV_deleteWhere ?_]
    · exact hc
    · cases hs : op.forgetSel sep k with
      | false => rfl
      | true => rw [(Op.forgetSel_spec sep op).2 hw k hs] at hk; cases hk

theorem DS.step_forget_dataObjs (sep : Bool) (d : DS) (op : Op) (hop : op.isForget = true)
    (hw : Op.wipesData sep op = false) : (DS.step sep d op).dataObjs = d.dataObjs := by
  rw [DS.step_forget sep d op hop]
  exact DS.dataObjs_deleteWhere ((Op.forgetSel_spec sep op).2 hw)

end Memento.Store
