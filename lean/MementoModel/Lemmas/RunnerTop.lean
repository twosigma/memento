import MementoModel.Lemmas.RunnerExt

/-! Single calls and top-level calls: a call that passes validation is `runLocal` of its key; what a top-level call leaves
in store and trace when its key was stored and when it was not. -/
namespace Memento.Runner

theorem run_single {P : Prog} {n : Nat} {s : St} {caller : Option Frame} {fn : Fn} {arg : Val} {ctx : CtxSpec}
    {fl : Flags} (hu : undeclared P caller fn = false) (hp : prevented caller = false) :
    run P (n + 1) s caller fn [arg] ctx fl =
      match runLocal P (E P n) s ⟨fn, arg, effCtx caller ctx⟩ fl with
      | none => none
      | some (s1, o, r) => some (s1, .ok [o], [r]) := by
  rw [run_succ, runBatchWith_nf (E_ext P n), hu, hp, List.map_cons, List.map_nil, seqLocal]
  cases runLocal P (E P n) s ⟨fn, arg, effCtx caller ctx⟩ fl with
  | none => rfl
  | some x => rfl

/-- stated for any result, a refused batch (no record) included: `run_single_key` has the records of a run, not its result -/
theorem run_keys {P : Prog} {n : Nat} {s s' : St} (hk : Keyed s) {caller : Option Frame} {fn : Fn} {args : List Val}
    {ctx : CtxSpec} {fl : Flags} {res} {recs : List Rec} (h : run P n s caller fn args ctx fl = some (s', res, recs)) :
    (∃ e, res = .error e ∧ recs = []) ∨ recs.map (·.key) = args.map fun a => ⟨fn, a, effCtx caller ctx⟩ := by
  cases n with
  | zero => cases h
  | succ n =>
    rw [run_succ] at h
    rcases runBatchWith_inv (E_ext P n) h with ⟨_, _, hres, hr⟩ | ⟨_, _, _, hres, hr⟩ | ⟨_, _, os, _, hb⟩
    · exact .inl ⟨_, hres, hr⟩
    · exact .inl ⟨_, hres, hr⟩
    · exact .inr ((seqLocal_ext (E_ext P n) hb).2 hk)

theorem run_single_key {P : Prog} {n : Nat} {s s' : St} (hk : Keyed s) {caller : Option Frame} {fn : Fn} {arg : Val}
    {ctx : CtxSpec} {fl : Flags} {res} {r : Rec} (h : run P n s caller fn [arg] ctx fl = some (s', res, [r])) :
    r.key = ⟨fn, arg, effCtx caller ctx⟩ := by
  rcases run_keys hk h with ⟨_, _, hr⟩ | hr
  · cases hr
  · exact List.head_eq_of_cons_eq hr

theorem callTop_succ (P : Prog) (n : Nat) (s : St) (fn : Fn) (arg : Val) (ctx : CtxSpec) (fl : Flags) :
    callTop P (n + 1) s fn arg ctx fl =
      match runLocal P (E P n) s ⟨fn, arg, effCtx none ctx⟩ fl with
      | none => none
      | some (s1, o, _) => some (s1, o) := by
  unfold callTop
  rw [run_single (caller := none) rfl rfl]
  cases runLocal P (E P n) s ⟨fn, arg, effCtx none ctx⟩ fl with
  | none => rfl
  | some x => rfl

theorem callTop_eq_some_iff {P : Prog} {n : Nat} {s s' : St} {fn : Fn} {arg : Val} {ctx : CtxSpec} {fl : Flags} {o : Outcome} :
    callTop P n s fn arg ctx fl = some (s', o) ↔
      ∃ res recs, run P n s none fn [arg] ctx fl = some (s', res, recs) ∧ (res = .error o ∨ res = .ok [o]) := by
  unfold callTop
  constructor
  · intro h
    split at h
    · rename_i hrun; cases h; exact ⟨_, _, hrun, .inr rfl⟩
    · rename_i hrun; cases h; exact ⟨_, _, hrun, .inl rfl⟩
    · cases h
  · rintro ⟨res, recs, hrun, rfl | rfl⟩
    · rw [hrun]
    · rw [hrun]

/- `key` is explicit in the next three lemmas: callers spell it `⟨fn, arg, c⟩` and pass `rfl` for `hk`. Left implicit it
   would be read off that `rfl` with `ctx` not yet known (it comes with `h`, the last argument), and the unifier would
   meet `effCtx none ?ctx =?= c` in `hr` / `hn`. -/
theorem callTop_hit_inv {P : Prog} {n : Nat} {s s' : St} {fn : Fn} {arg : Val} {ctx : CtxSpec} {fl : Flags} {o : Outcome}
    (key : Key) (hk : key = ⟨fn, arg, effCtx none ctx⟩) {r : Rec} (hr : s.get key = some r)
    (h : callTop P n s fn arg ctx fl = some (s', o)) : s' = s ∧ o = serve r fl := by
  subst hk
  cases n with
  | zero => cases h
  | succ n =>
    rw [callTop_succ, runLocal_hit hr] at h
    cases h
    exact ⟨rfl, rfl⟩

theorem callTop_miss_spec {P : Prog} {n : Nat} {s s' : St} {fn : Fn} {arg : Val} {ctx : CtxSpec} {fl : Flags} {o : Outcome}
    (key : Key) (hk : key = ⟨fn, arg, effCtx none ctx⟩) (hn : s.get key = none)
    (h : callTop P n s fn arg ctx fl = some (s', o)) :
    ∃ s1 ob fr1 rest,
      o = deliver fl ob ∧
      s' = storeAfter s1 key ob (mkRec key ob fr1) ∧
      s'.trace = s.trace ++ (key :: rest) ∧
      s1.enabled = s.enabled ∧
      (∀ k, k ∉ rest → s1.get k = s.get k) := by
  subst hk
  cases n with
  | zero => cases h
  | succ n =>
    rw [callTop_succ] at h
    split at h
    · cases h
    · rename_i s2 o1 r hl
      cases h
      obtain ⟨s1, ob, fr1, hx, rfl, ho, hs⟩ := runLocal_miss_inv hn hl
      have hE := E_ext P n hx
      obtain ⟨_, rest, ht, hf⟩ := Ext.local (r := mkRec ⟨fn, arg, effCtx none ctx⟩ ob fr1) ob rfl hE
      exact ⟨s1, ob, fr1, rest, ho, hs, by rw [hs]; exact ht, hE.enabled, hf⟩

/-- the call `k` is not re-entrant in the execution from `s` to `s'`: its body was not entered a second
    time while it was running (a re-entrant call of a key that is not yet stored is an unbounded recursion
    in every ordinary program; it can terminate only through tricks such as the inner call being made
    under `with_prevent_further_calls` — see the counterexamples in `Props/C02.lean`) -/
def NotReentrant (s s' : St) (k : Key) : Prop := ∀ rest, s'.trace = s.trace ++ (k :: rest) → k ∉ rest

theorem callTop_miss_get {P : Prog} {n : Nat} {s s' : St} {fn : Fn} {arg : Val} {ctx : CtxSpec} {fl : Flags} {o : Outcome}
    (key : Key) (hk : key = ⟨fn, arg, effCtx none ctx⟩) (he : s.enabled = true) (hn : s.get key = none)
    (h : callTop P n s fn arg ctx fl = some (s', o)) (hre : NotReentrant s s' key) :
    ∃ ob r, o = deliver fl ob ∧ r.out = ob ∧
      (isNonMemo ob = true → s'.get key = none) ∧ (isNonMemo ob = false → s'.get key = some r) := by
  obtain ⟨s1, ob, fr1, rest, ho, hs, ht, hen, hf⟩ := callTop_miss_spec key hk hn h
  have hg : s1.get key = none := by rw [hf _ (hre rest ht)]; exact hn
  refine ⟨ob, mkRec key ob fr1, ho, rfl, fun hnm => ?_, fun hnm => ?_⟩
  · rw [hs, storeAfter_nonMemo hnm]
    exact hg
  · rw [hs]
    exact storeAfter_get_self hnm (hen.trans he) hg

end Memento.Runner
