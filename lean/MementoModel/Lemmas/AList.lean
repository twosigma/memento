import MementoModel.Model.AList

/-! The one theory of the dictionaries: a keyed list is known by what `alookup` returns, so `aset`, `adel`, `filter`, `map`
    and `++` are each described by the lookup afterwards; the models' own dictionaries take their facts from here.
    A *view* `l.filterMap (F ∘ fst)` follows the writes of `l`, also when `F` changes with them; `sortDedup` depends on
    the set of elements only. -/
namespace Memento.Store

section alist
variable {α β : Type} [DecidableEq α]

/-- with the `BEq` instance that `aset` / `adel` use -/
def nekey (a : α) : α → Bool := fun x => !(x == a)

theorem nekey_iff (a x : α) : nekey a x = true ↔ x ≠ a := by simp [nekey]

theorem nekey_congr {α' : Type} [DecidableEq α'] {a x : α} {b y : α'} (h : x = a ↔ y = b) :
    nekey a x = nekey b y :=
  congrArg (!·) (Bool.eq_iff_iff.mpr (by simpa using h))

theorem adel_eq (l : List (α × β)) (a : α) : adel l a = l.filter (fun p => nekey a p.1) := rfl

theorem aset_eq (l : List (α × β)) (a : α) (b : β) : aset l a b = (a, b) :: l.filter (fun p => nekey a p.1) := rfl

theorem alookup_nil (a : α) : alookup ([] : List (α × β)) a = none := rfl

theorem alookup_cons (p : α × β) (l : List (α × β)) (a : α) :
    alookup (p :: l) a = if p.1 = a then some p.2 else alookup l a := by
  unfold alookup
  by_cases h : p.1 = a <;> simp [h]

/-- how the models' own recursive lookups are bridged -/
theorem alookup_unique (g : List (α × β) → α → Option β) (hnil : ∀ a, g [] a = none)
    (hcons : ∀ p r a, g (p :: r) a = if p.1 = a then some p.2 else g r a) (l : List (α × β)) (a : α) :
    g l a = alookup l a := by
  induction l with
  | nil => exact hnil a
  | cons p r ih => rw [hcons, alookup_cons, ih]

theorem alookup_mem {l : List (α × β)} {a : α} {b : β} (h : alookup l a = some b) : (a, b) ∈ l := by
  obtain ⟨p, hp, rfl⟩ := Option.map_eq_some_iff.mp h
  have hk : p.1 = a := beq_iff_eq.mp (List.find?_some (p := fun q : α × β => q.1 == a) hp)
  exact hk ▸ List.mem_of_find?_eq_some hp

theorem alookup_eq_none_iff {l : List (α × β)} {a : α} : alookup l a = none ↔ a ∉ l.map (·.1) := by
  rw [alookup, Option.map_eq_none_iff, List.find?_eq_none, List.mem_map]
  exact ⟨fun h ⟨p, hp, e⟩ => h p hp (beq_iff_eq.mpr e), fun h p hp e => h ⟨p, hp, beq_iff_eq.mp e⟩⟩

theorem mem_keys_iff_alookup {l : List (α × β)} {a : α} : a ∈ l.map (·.1) ↔ ∃ b, alookup l a = some b := by
  rw [← Option.ne_none_iff_exists', Ne, alookup_eq_none_iff, Classical.not_not]

theorem exists_alookup_of_mem {l : List (α × β)} {p : α × β} (h : p ∈ l) : ∃ b, alookup l p.1 = some b :=
  mem_keys_iff_alookup.mp (List.mem_map.mpr ⟨p, h, rfl⟩)

theorem alookup_append (l l' : List (α × β)) (a : α) :
    alookup (l ++ l') a = (alookup l a).or (alookup l' a) := by
  simp only [alookup, List.find?_append, Option.map_or]

theorem alookup_filter (l : List (α × β)) (f : α → Bool) (a : α) :
    alookup (l.filter (fun p => f p.1)) a = if f a then alookup l a else none := by
  induction l with
  | nil => simp [alookup_nil]
  | cons p l ih =>
    rw [List.filter_cons, alookup_cons p l a]
    by_cases e : p.1 = a
    · subst e
      by_cases hf : f p.1 = true
      · simp only [if_pos hf, alookup_cons, if_true]
      · simp only [if_neg hf, ih]
    · rw [if_neg e, ← ih]
      by_cases hf : f p.1 = true
      · rw [if_pos hf, alookup_cons, if_neg e]
      · rw [if_neg hf]

theorem alookup_aset (l : List (α × β)) (a : α) (b : β) (a' : α) :
    alookup (aset l a b) a' = if a' = a then some b else alookup l a' := by
  rw [aset_eq, alookup_cons, alookup_filter l (nekey a) a']
  by_cases e : a' = a
  · subst e; simp
  · simp [e, Ne.symm e, nekey_iff]

theorem alookup_adel (l : List (α × β)) (a a' : α) :
    alookup (adel l a) a' = if a' = a then none else alookup l a' := by
  rw [adel_eq, alookup_filter l (nekey a) a']
  by_cases e : a' = a
  · subst e; simp [nekey_iff]
  · simp [e, nekey_iff]

theorem alookup_map_val {γ : Type} (l : List (α × β)) (g : α → β → γ) (a : α) :
    alookup (l.map (fun p => (p.1, g p.1 p.2))) a = (alookup l a).map (g a) := by
  induction l with
  | nil => rfl
  | cons p l ih =>
    simp only [List.map_cons, alookup_cons, ih]
    by_cases e : p.1 = a
    · subst e; simp
    · simp [e]

theorem mem_adel {l : List (α × β)} {a : α} {p : α × β} : p ∈ adel l a ↔ p ∈ l ∧ p.1 ≠ a := by
  rw [adel_eq, List.mem_filter, nekey_iff]

theorem keys_aset_nodup {l : List (α × β)} (a : α) (b : β) (h : (l.map (·.1)).Nodup) :
    ((aset l a b).map (·.1)).Nodup := by
  refine List.nodup_cons.mpr ⟨fun hx => ?_, h.sublist (List.Sublist.map _ List.filter_sublist)⟩
  obtain ⟨p, hp, hpe⟩ := List.mem_map.mp hx
  exact (mem_adel.mp hp).2 hpe

omit [DecidableEq α] in
theorem keys_filter_nodup {l : List (α × β)} (f : α × β → Bool) (h : (l.map (·.1)).Nodup) :
    ((l.filter f).map (·.1)).Nodup :=
  h.sublist (List.Sublist.map _ List.filter_sublist)

theorem mem_aset {l : List (α × β)} {a : α} {b : β} {p : α × β} (h : p ∈ aset l a b) :
    p = (a, b) ∨ (p ∈ l ∧ p.1 ≠ a) := by
  rcases List.mem_cons.mp h with h | h
  · exact Or.inl h
  · exact Or.inr (mem_adel.mp h)

theorem map_fst_adel (l : List (α × β)) (a : α) : (adel l a).map (·.1) = (l.map (·.1)).filter (· ≠ a) := by
  rw [adel_eq, List.filter_map]
  refine congrArg _ (List.filter_congr fun p _ => ?_)
  by_cases e : p.1 = a <;> simp [e, nekey]

theorem adel_of_not_mem {l : List (α × β)} {a : α} (h : a ∉ l.map (·.1)) : adel l a = l :=
  List.filter_eq_self.mpr fun p hp => (nekey_iff a p.1).mpr fun e => h (List.mem_map.mpr ⟨p, hp, e⟩)

theorem mem_iff_alookup_of_nodup {l : List (α × β)} (hn : (l.map (·.1)).Nodup) {a : α} {b : β} :
    (a, b) ∈ l ↔ alookup l a = some b := by
  refine ⟨fun hm => ?_, alookup_mem⟩
  induction l with
  | nil => cases hm
  | cons x r ih =>
    rw [List.map_cons, List.nodup_cons] at hn
    rw [alookup_cons]
    rcases List.mem_cons.mp hm with rfl | hm'
    · rw [if_pos rfl]
    · have : x.1 ≠ a := fun e => hn.1 (e ▸ List.mem_map.mpr ⟨(a, b), hm', rfl⟩)
      rw [if_neg this]
      exact ih hn.2 hm'

theorem alookup_filter_val {l : List (α × β)} (hn : (l.map (·.1)).Nodup) (p : β → Bool) (a : α) :
    alookup (l.filter (fun e => p e.2)) a = (alookup l a).filter p := by
  apply Option.ext
  intro b
  rw [← mem_iff_alookup_of_nodup (keys_filter_nodup _ hn), List.mem_filter, mem_iff_alookup_of_nodup hn,
    Option.filter_eq_some_iff]

omit [DecidableEq α] in
theorem filter_key_length_le_one (l : List (α × β)) (P : α → Bool)
    (hn : (l.map (·.1)).Nodup) (hP : ∀ p ∈ l, ∀ q ∈ l, P p.1 = true → P q.1 = true → p.1 = q.1) :
    (l.filter (fun p => P p.1)).length ≤ 1 := by
  induction l with
  | nil => simp
  | cons a l ih =>
    have hn' := List.nodup_cons.mp (show (a.1 :: l.map (·.1)).Nodup from hn)
    have ih' := ih hn'.2 (fun p hp q hq => hP p (List.mem_cons_of_mem _ hp) q (List.mem_cons_of_mem _ hq))
    by_cases ha : P a.1 = true
    · rw [List.filter_cons, if_pos ha]
      have : l.filter (fun p => P p.1) = [] := by
        apply List.filter_eq_nil_iff.mpr
        intro q hq hPq
        have := hP a List.mem_cons_self q (List.mem_cons_of_mem _ hq) ha hPq
        exact hn'.1 (this ▸ List.mem_map.mpr ⟨q, hq, rfl⟩)
      rw [this]; simp
    · rw [List.filter_cons, if_neg ha]; exact ih'

end alist

section fm
variable {α β γ δ : Type}

theorem filterMap_congr {f g : α → Option β} {l : List α} (h : ∀ x ∈ l, f x = g x) :
    l.filterMap f = l.filterMap g := by
  induction l with
  | nil => rfl
  | cons a l ih =>
    rw [List.filterMap_cons, List.filterMap_cons, h a List.mem_cons_self,
      ih (fun x hx => h x (List.mem_cons_of_mem _ hx))]

theorem filterMap_filter_of_none (l : List (α × β)) (F : α → Option γ) (S : α → Bool)
    (h : ∀ p ∈ l, S p.1 = false → F p.1 = none) :
    (l.filter (fun p => S p.1)).filterMap (fun p => F p.1) = l.filterMap (fun p => F p.1) := by
  rw [List.filterMap_filter]
  refine filterMap_congr fun p hp => ?_
  by_cases hs : S p.1 = true
  · rw [if_pos hs]
  · rw [if_neg hs, h p hp (by simpa using hs)]

theorem filterMap_filter_eq_nil (l : List (α × β)) (F : α → Option γ) (S : α → Bool)
    (h : ∀ p ∈ l, S p.1 = true → F p.1 = none) :
    (l.filter (fun p => S p.1)).filterMap (fun p => F p.1) = [] := by
  rw [List.filterMap_filter, List.filterMap_eq_nil_iff]
  intro p hp
  by_cases hs : S p.1 = true
  · rw [if_pos hs, h p hp hs]
  · rw [if_neg hs]

theorem filter_filterMap_key (l : List (α × β)) (F : α → Option (γ × δ)) (P : γ → Bool) (S : α → Bool)
    (h : ∀ p ∈ l, ∀ q, F p.1 = some q → P q.1 = S p.1) :
    (l.filterMap (fun p => F p.1)).filter (fun q => P q.1)
      = (l.filter (fun p => S p.1)).filterMap (fun p => F p.1) := by
  rw [List.filter_filterMap, List.filterMap_filter]
  refine filterMap_congr fun p hp => ?_
  cases hF : F p.1 with
  | none => simp
  | some q => simp [Option.filter, h p hp q hF]

theorem filterMap_aset [DecidableEq α] (l : List (α × β)) (F : α → Option γ) (a : α) (b : β) :
    (aset l a b).filterMap (fun p => F p.1) =
      (match F a with | some q => [q] | none => []) ++
        (l.filter (fun p => nekey a p.1)).filterMap (fun p => F p.1) := by
  rw [aset_eq, List.filterMap_cons]
  cases F a <;> rfl

variable [DecidableEq α] [DecidableEq γ]

/-- `F` may itself read `l`, hence `hnone` -/
theorem alookup_filterMap_key (l : List (α × β)) (F : α → Option (γ × δ)) (a : α) (c : γ)
    (hF : ∀ a' q, F a' = some q → (q.1 = c ↔ a' = a))
    (hnone : alookup l a = none → F a = none) :
    alookup (l.filterMap (fun p => F p.1)) c = (F a).map (·.2) := by
  induction l with
  | nil => simp [alookup_nil, hnone rfl]
  | cons p l ih =>
    by_cases e : p.1 = a
    · cases hFa : F a with
      | none =>
        have := ih (fun _ => hFa)
        simp only [List.filterMap_cons, e, hFa, Option.map_none] at this ⊢
        exact this
      | some q =>
        have hq := (hF a q hFa).mpr rfl
        simp [e, hFa, alookup_cons, hq]
    · have ih' := ih (fun hh => hnone (by rw [alookup_cons, if_neg e]; exact hh))
      cases hFp : F p.1 with
      | none => simp only [List.filterMap_cons, hFp]; exact ih'
      | some q =>
        have hq : ¬ q.1 = c := fun hc => e ((hF _ q hFp).mp hc)
        simp only [List.filterMap_cons, hFp, alookup_cons, hq, if_false]; exact ih'

end fm

section view
variable {α β γ δ : Type} [DecidableEq α]

theorem filterMap_adel_skip {l : List (α × β)} {F F' : α → Option γ} {a : α}
    (hF : F a = none) (hframe : ∀ p ∈ l, p.1 ≠ a → F' p.1 = F p.1) :
    (adel l a).filterMap (fun p => F' p.1) = l.filterMap (fun p => F p.1) := by
  rw [adel_eq, filterMap_congr (g := fun p => F p.1) (fun p hp =>
    hframe p (List.mem_filter.mp hp).1 ((nekey_iff _ _).mp (List.mem_filter.mp hp).2))]
  apply filterMap_filter_of_none
  intro p _ hp
  have : p.1 = a := by simpa [nekey] using hp
  rw [this]; exact hF

theorem filterMap_aset_skip {l : List (α × β)} {F F' : α → Option γ} {a : α} {b : β}
    (hF : F a = none) (hnew : F' a = none) (hframe : ∀ p ∈ l, p.1 ≠ a → F' p.1 = F p.1) :
    (aset l a b).filterMap (fun p => F' p.1) = l.filterMap (fun p => F p.1) := by
  rw [filterMap_aset, hnew]
  exact filterMap_adel_skip hF hframe

theorem filterMap_aset_view [DecidableEq γ] {l : List (α × β)} {F F' : α → Option (γ × δ)} {a : α} {b : β}
    {c : γ} {e : δ} (hnew : F' a = some (c, e))
    (hkey : ∀ p ∈ l, ∀ q, F p.1 = some q → (q.1 = c ↔ p.1 = a))
    (hframe : ∀ p ∈ l, p.1 ≠ a → F' p.1 = F p.1) :
    (aset l a b).filterMap (fun p => F' p.1) = aset (l.filterMap (fun p => F p.1)) c e := by
  rw [filterMap_aset, hnew, aset_eq,
    filter_filterMap_key l F (nekey c) (nekey a) (fun p hp q hq => nekey_congr (hkey p hp q hq))]
  exact congrArg _ (filterMap_congr (fun p hp =>
    hframe p (List.mem_filter.mp hp).1 ((nekey_iff _ _).mp (List.mem_filter.mp hp).2)))

omit [DecidableEq α] in
theorem filterMap_filter_view (l : List (α × β)) (F F' : α → Option (γ × δ)) (S : α → Bool) (P : γ → Bool)
    (hkey : ∀ p ∈ l, ∀ q, F p.1 = some q → P q.1 = S p.1)
    (hframe : ∀ p ∈ l, S p.1 = true → F' p.1 = F p.1) :
    (l.filter (fun p => S p.1)).filterMap (fun p => F' p.1) =
      (l.filterMap (fun p => F p.1)).filter (fun q => P q.1) := by
  rw [filter_filterMap_key l F P S hkey]
  exact filterMap_congr (fun p hp => hframe p (List.mem_filter.mp hp).1 (List.mem_filter.mp hp).2)

end view

theorem mem_insertNat (x y : Nat) (l : List Nat) : y ∈ insertNat x l ↔ y = x ∨ y ∈ l := by
  fun_induction insertNat x l with
  | case1 => simp
  | case2 z l hxz => simp
  | case3 l hxz => simp
  | case4 z l hxz hne ih =>
    simp only [List.mem_cons, ih]
    exact or_left_comm

theorem sorted_insertNat (x : Nat) (l : List Nat) (h : l.Pairwise (· < ·)) :
    (insertNat x l).Pairwise (· < ·) := by
  fun_induction insertNat x l with
  | case1 => exact List.pairwise_singleton _ _
  | case2 z l hxz =>
    refine List.pairwise_cons.mpr ⟨fun a ha => ?_, h⟩
    rcases List.mem_cons.mp ha with rfl | ha
    · exact hxz
    · exact Nat.lt_trans hxz ((List.pairwise_cons.mp h).1 a ha)
  | case3 l hxz => exact h
  | case4 z l hxz hne ih =>
    have hz := List.pairwise_cons.mp h
    refine List.pairwise_cons.mpr ⟨fun a ha => ?_, ih hz.2⟩
    rcases (mem_insertNat x a l).mp ha with rfl | ha
    · exact Nat.lt_of_le_of_ne (Nat.le_of_not_lt hxz) fun e => hne e.symm
    · exact hz.1 a ha

theorem sortDedup_cons (x : Nat) (l : List Nat) : sortDedup (x :: l) = insertNat x (sortDedup l) := rfl

theorem mem_sortDedup (y : Nat) (l : List Nat) : y ∈ sortDedup l ↔ y ∈ l := by
  induction l with
  | nil => exact Iff.rfl
  | cons x l ih => rw [sortDedup_cons, mem_insertNat, ih, List.mem_cons]

theorem sorted_sortDedup (l : List Nat) : (sortDedup l).Pairwise (· < ·) := by
  induction l with
  | nil => exact List.Pairwise.nil
  | cons x l ih =>
    rw [sortDedup_cons]
    exact sorted_insertNat x _ ih

theorem sorted_ext (l1 l2 : List Nat) (h1 : l1.Pairwise (· < ·)) (h2 : l2.Pairwise (· < ·))
    (h : ∀ x, x ∈ l1 ↔ x ∈ l2) : l1 = l2 := by
  refine List.Perm.eq_of_pairwise (le := (· < ·)) (fun a b _ _ hab hba => absurd hab (Nat.lt_asymm hba)) h1 h2 ?_
  exact (List.perm_ext_iff_of_nodup (h1.imp Nat.ne_of_lt) (h2.imp Nat.ne_of_lt)).mpr h

theorem sortDedup_congr {l1 l2 : List Nat} (h : ∀ x, x ∈ l1 ↔ x ∈ l2) : sortDedup l1 = sortDedup l2 :=
  sorted_ext _ _ (sorted_sortDedup l1) (sorted_sortDedup l2)
    (fun x => by rw [mem_sortDedup, mem_sortDedup]; exact h x)

end Memento.Store
