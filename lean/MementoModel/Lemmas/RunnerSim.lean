import MementoModel.Lemmas.RunnerTop
import MementoModel.Lemmas.RunnerRel

/-!
  The simulation between a memoized evaluation on a sound store and the un-memoized semantics (the same runner
  on a disabled store). The un-memoized side is a family of relations "at some fuel, from every disabled state,
  the evaluation ends with this result": fuel and start state are quantified inside, so steps compose by taking
  the larger fuel. Calls under `with_prevent_further_calls` are excluded throughout: `Sound` compares a stored
  record with the execution from `fr0 k false`, and a record computed under prevent sits under the same key.
-/
namespace Memento.Runner

/-- frames agree, the dependencies as a set -/
def FSim (fr fr' : Frame) : Prop :=
  fr.key = fr'.key ∧ fr.prevent = fr'.prevent ∧ fr.invs = fr'.invs ∧ fr.res = fr'.res ∧
    ∀ f, f ∈ fr.deps ↔ f ∈ fr'.deps

theorem FSim.refl (fr : Frame) : FSim fr fr := ⟨rfl, rfl, rfl, rfl, fun _ => Iff.rfl⟩

theorem fsim_propagate {fr fr' : Frame} {r r' : Rec} (h : FSim fr fr') (hr : Rec.same r r') :
    FSim (propagate fr r) (propagate fr' r') := by
  obtain ⟨h1, h2, h3, h4, h5⟩ := h
  obtain ⟨r1, _, _, _, r5⟩ := hr
  refine ⟨h1, h2, ?_, h4, fun f => ?_⟩
  · show fr.invs ++ [r.key] = fr'.invs ++ [r'.key]
    rw [h3, r1]
  · rw [propagate_deps, propagate_deps, h5 f, r1, r5 f]

theorem fsim_resource {fr fr' : Frame} (h : FSim fr fr') (x : Nat) :
    FSim { fr with res := fr.res ++ [x] } { fr' with res := fr'.res ++ [x] } := by
  obtain ⟨h1, h2, h3, h4, h5⟩ := h
  exact ⟨h1, h2, h3, by show fr.res ++ [x] = fr'.res ++ [x]; rw [h4], h5⟩

def CSim : Option Frame → Option Frame → Prop
  | none, none => True
  | some fr, some fr' => FSim fr fr'
  | _, _ => False

theorem CSim.inv {c c' : Option Frame} (h : CSim c c') :
    (c = none ∧ c' = none) ∨ ∃ fr fr', c = some fr ∧ c' = some fr' ∧ FSim fr fr' := by
  cases c <;> cases c'
  · exact .inl ⟨rfl, rfl⟩
  · exact h.elim
  · exact h.elim
  · exact .inr ⟨_, _, rfl, rfl, h⟩

theorem CSim.undeclared {c c' : Option Frame} (h : CSim c c') (P : Prog) (fn : Fn) :
    undeclared P c fn = undeclared P c' fn := by
  rcases h.inv with ⟨rfl, rfl⟩ | ⟨fr, fr', rfl, rfl, hf⟩
  · rfl
  · simp only [Memento.Runner.undeclared, hf.1]

theorem CSim.prevented {c c' : Option Frame} (h : CSim c c') : prevented c = prevented c' := by
  rcases h.inv with ⟨rfl, rfl⟩ | ⟨fr, fr', rfl, rfl, hf⟩
  · rfl
  · exact hf.2.1

theorem CSim.effCtx {c c' : Option Frame} (h : CSim c c') (ctx : CtxSpec) : effCtx c ctx = effCtx c' ctx := by
  rcases h.inv with ⟨rfl, rfl⟩ | ⟨fr, fr', rfl, rfl, hf⟩
  · rfl
  · cases ctx with
    | set x => rfl
    | inherit => exact congrArg Key.ctx hf.1

/-- the premise that `BSim.batch` puts on the two results its continuations receive, under a name -/
def ResSim (r r' : Except Outcome (List Outcome)) : Prop :=
  match r, r' with
  | .error e, .error e' => Outcome.sim e e'
  | .ok os, .ok os' => simList os os'
  | _, _ => False

theorem ResSim.single {res res' : Except Outcome (List Outcome)} {o : Outcome} (h : ResSim res res')
    (h1 : res = .error o ∨ res = .ok [o]) : ∃ o', (res' = .error o' ∨ res' = .ok [o']) ∧ Outcome.sim o o' := by
  rcases h1 with rfl | rfl
  · cases res' with
    | error e' => exact ⟨e', .inl rfl, h⟩
    | ok os => exact h.elim
  · cases res' with
    | error e' => exact h.elim
    | ok os =>
      obtain _ | ⟨o', _ | _⟩ := os  -- for `os` of any other length than 1, `h` reduces to `False`
      · exact h.elim
      · exact ⟨o', .inr rfl, h.1⟩
      · exact h.2.elim

theorem deliver_sim (fl : Flags) {o o' : Outcome} (h : Outcome.sim o o') : Outcome.sim (deliver fl o) (deliver fl o') := by
  cases o with
  | val v => rw [Outcome.sim_val_left h]; exact Outcome.sim_refl _
  | exc c m =>
    obtain ⟨c', m', rfl, _⟩ := Outcome.sim_exc_inv h
    exact h

theorem serve_sim_deliver (fl : Flags) {r : Rec} {ob : Outcome} (h : Outcome.sim r.out ob) :
    Outcome.sim (serve r fl) (deliver fl ob) := by
  cases ob with
  | val v =>
    have hr : r.out = .val v := Outcome.sim_val_left (Outcome.sim_symm h)
    simp only [serve, hr, Outcome.isExc, deliver, replay]
    cases fl.ignore <;> exact Outcome.sim_refl _
  | exc c m =>
    have hx : r.out.isExc = true := Outcome.sim_isExc h
    simp only [serve, hx, deliver]
    simp only [Bool.not_true, Bool.and_false]
    exact Outcome.sim_trans (Outcome.sim_replay _) h

/-- un-memoized big step of a body -/
def PExec (P : Prog) (b : Body) (fr : Frame) (o : Outcome) (fr1 : Frame) : Prop :=
  ∃ m, ∀ sd, Dis sd → ∃ sd', Dis sd' ∧ E P m b sd fr = some (sd', o, fr1)

/-- un-memoized big step of `call_batch` -/
def PRun (P : Prog) (caller : Option Frame) (fn : Fn) (args : List Val) (ctx : CtxSpec) (fl : Flags)
    (res : Except Outcome (List Outcome)) (recs : List Rec) : Prop :=
  ∃ m, ∀ sd, Dis sd → ∃ sd', Dis sd' ∧ run P m sd caller fn args ctx fl = some (sd', res, recs)

/-- un-memoized big step of the loop over `keys` -/
def PLoop (P : Prog) (fl : Flags) (keys : List Key) (os : List Outcome) (rs : List Rec) : Prop :=
  ∃ m, ∀ sd, Dis sd → ∃ sd', Dis sd' ∧ seqLocal P (E P m) fl sd keys = some (sd', os, rs)

theorem PExec.ret {P : Prog} {o : Outcome} {fr : Frame} : PExec P (.ret o) fr o fr :=
  ⟨0, fun sd hd => ⟨sd, hd, rfl⟩⟩

theorem PExec.resource {P : Prog} {h : Nat} {k : Body} {fr : Frame} {o : Outcome} {fr1 : Frame}
    (hk : PExec P k { fr with res := fr.res ++ [h] } o fr1) : PExec P (.resource h k) fr o fr1 := by
  obtain ⟨m, hm⟩ := hk
  exact ⟨m, fun sd hd => hm sd hd⟩

/-- a nested batch composed with the rest of the body; `hstep` is `execBody`'s equation for the constructor at hand -/
theorem PExec.step {P : Prog} {b b2 : Body} {fr fr2 : Frame} {fn : Fn} {args : List Val} {ctx : CtxSpec} {fl : Flags}
    {res} {recs : List Rec} {o2 : Outcome} {fr3 : Frame}
    (hstep : ∀ m sd sd1, calleeAt P m sd fr fn args ctx fl = some (sd1, res, recs) → E P m b sd fr = E P m b2 sd1 fr2)
    (hr : PRun P (some fr) fn args ctx fl res recs) (hk : PExec P b2 fr2 o2 fr3) : PExec P b fr o2 fr3 := by
  obtain ⟨m1, h1⟩ := hr
  obtain ⟨m2, h2⟩ := hk
  refine ⟨max m1 m2, fun sd hd => ?_⟩
  obtain ⟨sd1, hd1, e1⟩ := h1 sd hd
  obtain ⟨sd2, hd2, e2⟩ := h2 sd1 hd1
  refine ⟨sd2, hd2, ?_⟩
  rw [hstep _ _ _ (run_le P (Nat.le_max_left m1 m2) e1)]
  exact E_le P (Nat.le_max_right m1 m2) e2

theorem PExec.call {P : Prog} {fn : Fn} {arg : Val} {ctx : CtxSpec} {fl : Flags} {k : Outcome → Body} {fr : Frame}
    {res} {o : Outcome} {recs : List Rec} {o2 : Outcome} {fr2 : Frame}
    (hr : PRun P (some fr) fn [arg] ctx fl res recs) (hres : res = .error o ∨ res = .ok [o])
    (hk : PExec P (k o) (recs.foldl propagate fr) o2 fr2) : PExec P (.call fn arg ctx fl k) fr o2 fr2 :=
  PExec.step (fun _ _ _ hc => by
    rcases hres with rfl | rfl
    · simp only [E, execBody, hc]
    · simp only [E, execBody, hc]) hr hk

theorem PExec.batch {P : Prog} {fn : Fn} {args : List Val} {ctx : CtxSpec} {fl : Flags}
    {k : Except Outcome (List Outcome) → Body} {fr : Frame}
    {r : Except Outcome (List Outcome)} {recs : List Rec} {o2 : Outcome} {fr2 : Frame}
    (hr : PRun P (some fr) fn args ctx fl r recs)
    (hk : PExec P (k r) (recs.foldl propagate fr) o2 fr2) : PExec P (.batch fn args ctx fl k) fr o2 fr2 :=
  PExec.step (fun _ _ _ hc => by simp only [E, execBody, hc]) hr hk

theorem PLoop.nil {P : Prog} {fl : Flags} : PLoop P fl [] [] [] :=
  ⟨0, fun sd hd => ⟨sd, hd, rfl⟩⟩

theorem PLoop.cons {P : Prog} {fl : Flags} {key : Key} {keys : List Key} {ob : Outcome} {fr1 : Frame}
    {os : List Outcome} {rs : List Rec} (h1 : PExec P (P.body key.fn key.arg) (fr0 key fl.prevent) ob fr1)
    (h2 : PLoop P fl keys os rs) : PLoop P fl (key :: keys) (deliver fl ob :: os) (mkRec key ob fr1 :: rs) := by
  obtain ⟨m1, h1⟩ := h1
  obtain ⟨m2, h2⟩ := h2
  refine ⟨max m1 m2, fun sd hd => ?_⟩
  obtain ⟨sd1, hd1, e1⟩ := h1 { sd with trace := sd.trace ++ [key] } hd
  obtain ⟨sd2, hd2, e2⟩ := h2 sd1 hd1
  refine ⟨sd2, hd2, ?_⟩
  obtain ⟨_, rfl, e2'⟩ := seqLocal_rel StRel.eq (E_rel StRel.eq P (Nat.le_max_right m1 m2)) rfl e2
  simp only [seqLocal, runLocal_miss (St.get_disabled hd _), E_le P (Nat.le_max_left m1 m2) e1, storeAfter_dis hd1, e2']

theorem PRun.undeclared {P : Prog} {caller : Option Frame} {fn : Fn} (h : undeclared P caller fn = true)
    (args : List Val) (ctx : CtxSpec) (fl : Flags) :
    PRun P caller fn args ctx fl (.error (.exc clsUndeclared 0)) [] := by
  refine ⟨1, fun sd hd => ⟨sd, hd, ?_⟩⟩
  rw [run_succ, runBatchWith_eq, if_pos h]

theorem PRun.prevented {P : Prog} {caller : Option Frame} {fn : Fn} (hu : Memento.Runner.undeclared P caller fn = false)
    (h : Memento.Runner.prevented caller = true) (args : List Val) (ctx : CtxSpec) (fl : Flags) :
    PRun P caller fn args ctx fl (.error (.exc clsRuntime 0)) [] := by
  refine ⟨1, fun sd hd => ⟨sd, hd, ?_⟩⟩
  rw [run_succ, runBatchWith_prevented hu h]

theorem PRun.ok {P : Prog} {caller : Option Frame} {fn : Fn} (hu : Memento.Runner.undeclared P caller fn = false)
    (hp : Memento.Runner.prevented caller = false) {args : List Val} {ctx : CtxSpec} {fl : Flags}
    {os : List Outcome} {rs : List Rec}
    (h : PLoop P fl (args.map (fun a => (⟨fn, a, effCtx caller ctx⟩ : Key))) os rs) :
    PRun P caller fn args ctx fl (.ok os) rs := by
  obtain ⟨m, hm⟩ := h
  refine ⟨m + 1, fun sd hd => ?_⟩
  obtain ⟨sd1, hd1, e1⟩ := hm sd hd
  refine ⟨sd1, hd1, ?_⟩
  rw [run_succ, runBatchWith_nf (E_ext P m), hu, hp]
  simp only [e1]
  rfl

/-- `r` is the record an un-memoized execution of `k` produces -/
def PureRecOf (P : Prog) (k : Key) (r : Rec) : Prop :=
  ∃ ob fr1, PExec P (P.body k.fn k.arg) (fr0 k false) ob fr1 ∧ r = mkRec k ob fr1

/-- the state `pureCall` and `pureRec` start in -/
def emp : St := { store := [], trace := [], enabled := false }

theorem pureCall_eq (P : Prog) (n : Nat) (fn : Fn) (arg : Val) (ctx : CtxSpec) (fl : Flags) :
    pureCall P n fn arg ctx fl = (callTop P n emp fn arg ctx fl).map (·.2) := rfl

theorem pureRec_eq (P : Prog) (n : Nat) (k : Key) :
    pureRec P n k =
      match run P n emp none k.fn [k.arg] (.set k.ctx) {} with
      | some (_, _, [r]) => some r
      | _ => none := rfl

theorem pureRec_succ (P : Prog) (n : Nat) (k : Key) :
    pureRec P (n + 1) k =
      match runLocal P (E P n) emp k {} with
      | some (_, _, r) => some r
      | none => none := by
  obtain ⟨f, a, c⟩ := k
  rw [pureRec_eq, run_single (caller := none) rfl rfl, effCtx_set]
  cases runLocal P (E P n) emp ⟨f, a, c⟩ {} with
  | none => rfl
  | some x => rfl

theorem PureRecOf.of_pureRec {P : Prog} {n : Nat} {k : Key} {r : Rec} (h : pureRec P n k = some r) : PureRecOf P k r := by
  cases n with
  | zero => cases h
  | succ n =>
    rw [pureRec_succ] at h
    split at h
    · rename_i s1 o r1 hl
      cases h
      have hd : Dis emp := rfl
      obtain ⟨s2, ob, fr1, hx, hr, _, _⟩ := runLocal_miss_inv (St.get_disabled hd k) hl
      refine ⟨ob, fr1, ⟨n, fun sd hd2 => ?_⟩, hr⟩
      have hd' : Dis { emp with trace := emp.trace ++ [k] } := rfl
      obtain ⟨sd', hdd, hx2⟩ := E_rel StRel.dis P (Nat.le_refl n) ⟨hd', hd2⟩ hx
      exact ⟨sd', hdd.2, hx2⟩
    · cases h

theorem PureRecOf.pureRec {P : Prog} {k : Key} {r : Rec} (h : PureRecOf P k r) : ∃ n, pureRec P n k = some r := by
  obtain ⟨ob, fr1, ⟨m, hm⟩, hr⟩ := h
  refine ⟨m + 1, ?_⟩
  have hd : Dis emp := rfl
  have hd' : Dis { emp with trace := emp.trace ++ [k] } := rfl
  obtain ⟨sd1, hd1, e1⟩ := hm _ hd'
  rw [pureRec_succ, runLocal_miss (St.get_disabled hd _)]
  dsimp only
  rw [e1, hr]

theorem pureRec_le (P : Prog) {n m : Nat} (hnm : n ≤ m) {k : Key} {r : Rec} (h : pureRec P n k = some r) :
    pureRec P m k = some r := by
  rw [pureRec_eq] at h ⊢
  split at h
  · rename_i hrun
    rw [run_le P hnm hrun]; exact h
  · cases h

theorem pureRec_det (P : Prog) {n m : Nat} {k : Key} {r r' : Rec} (h : pureRec P n k = some r)
    (h' : pureRec P m k = some r') : r = r' := by
  have a := pureRec_le P (Nat.le_max_left n m) h
  have b := pureRec_le P (Nat.le_max_right n m) h'
  rw [a] at b; cases b; rfl

theorem pureCall_pureRec {P : Prog} {m : Nat} {fn : Fn} {arg : Val} {c : Ctx} {fl : Flags} {o' : Outcome}
    (hfl : fl.prevent = false) (h : pureCall P m fn arg (.set c) fl = some o') :
    ∃ r', pureRec P m ⟨fn, arg, c⟩ = some r' ∧ o' = deliver fl r'.out := by
  cases m with
  | zero => cases h
  | succ m =>
    have hd : Dis emp := rfl
    rw [pureCall_eq, callTop_succ, effCtx_set, runLocal_miss (St.get_disabled hd _), hfl] at h
    rw [pureRec_succ, runLocal_miss (St.get_disabled hd _)]
    dsimp only at h ⊢
    cases hx : E P m (P.body fn arg) { emp with trace := emp.trace ++ [⟨fn, arg, c⟩] } (fr0 ⟨fn, arg, c⟩ false) with
    | none => rw [hx] at h; cases h
    | some x =>
      obtain ⟨s1, ob, fr⟩ := x
      rw [hx] at h
      cases h
      exact ⟨_, rfl, rfl⟩

theorem PureRecOf.key {P : Prog} {k : Key} {r : Rec} (h : PureRecOf P k r) : r.key = k := by
  obtain ⟨_, _, _, hr⟩ := h; rw [hr]; rfl

theorem Sound.empty (P : Prog) (t : List Key) : Sound P { store := [], trace := t } :=
  ⟨rfl, fun k r h => by simp [St.get] at h⟩

theorem Sound.get {P : Prog} {s : St} (hs : Sound P s) {k : Key} {r : Rec} (h : s.get k = some r) :
    ∃ r', PureRecOf P k r' ∧ Rec.same r r' := by
  obtain ⟨n, r', h1, h2⟩ := hs.2 k r h
  exact ⟨r', PureRecOf.of_pureRec h1, h2⟩

theorem Sound.get_pureCall {P : Prog} {s : St} (hs : Sound P s) {fn : Fn} {arg : Val} {c : Ctx} {r : Rec}
    (hg : s.get ⟨fn, arg, c⟩ = some r) {m : Nat} {fl : Flags} {o' : Outcome} (hfl : fl.prevent = false)
    (hpure : pureCall P m fn arg (.set c) fl = some o') : ∃ ob, Outcome.sim r.out ob ∧ o' = deliver fl ob := by
  obtain ⟨n1, r1, h1, hsame⟩ := hs.2 _ _ hg
  obtain ⟨r2, h2, hout⟩ := pureCall_pureRec hfl hpure
  rw [pureRec_det P h1 h2] at hsame
  exact ⟨r2.out, hsame.2.1, hout⟩

theorem Sound.setTrace {P : Prog} {s : St} (hs : Sound P s) (t : List Key) : Sound P { s with trace := t } :=
  ⟨hs.1, fun k r h => hs.2 k r h⟩

theorem Sound.put {P : Prog} {s : St} (hs : Sound P s) {k : Key} {r r' : Rec} (hp : PureRecOf P k r')
    (hr : Rec.same r r') : Sound P (s.put k r) := by
  refine ⟨by rw [St.put_enabled]; exact hs.1, fun k' x hx => ?_⟩
  rcases St.get_put_cases hx with ⟨e1, e2, _⟩ | ⟨_, hx'⟩
  · subst e1 e2
    obtain ⟨n, hn⟩ := hp.pureRec
    exact ⟨n, r', hn, hr⟩
  · exact hs.2 k' x hx'

theorem Sound.keyed {P : Prog} {s : St} (hs : Sound P s) : Keyed s := by
  intro k r h
  obtain ⟨r', hp, hr⟩ := hs.get h
  rw [hr.1, hp.key]

/-- a record of the memoized run against the un-memoized record of its key -/
def RecOK (P : Prog) (r r' : Rec) : Prop := Rec.same r r' ∧ PureRecOf P r'.key r'

def RecsSim (P : Prog) : List Rec → List Rec → Prop
  | [], [] => True
  | r :: rs, r' :: rs' => RecOK P r r' ∧ RecsSim P rs rs'
  | _, _ => False

theorem RecsSim.mem {P : Prog} {rs rs' : List Rec} (h : RecsSim P rs rs') : ∀ r ∈ rs, ∃ r', RecOK P r r' := by
  fun_induction RecsSim P rs rs' with
  | case1 => nofun
  | case2 x xs x' xs' ih =>
    intro r hr
    rcases List.mem_cons.1 hr with rfl | hr
    · exact ⟨x', h.1⟩
    · exact ih h.2 r hr
  | case3 => exact h.elim  -- lists of different lengths

theorem fsim_foldl {P : Prog} {rs rs' : List Rec} (hr : RecsSim P rs rs') {fr fr' : Frame} (h : FSim fr fr') :
    FSim (rs.foldl propagate fr) (rs'.foldl propagate fr') := by
  fun_induction RecsSim P rs rs' generalizing fr fr' with
  | case1 => exact h
  | case2 r rs r' rs' ih => exact ih hr.2 (fsim_propagate h hr.1.1)
  | case3 => exact hr.elim

def RunSimAt (P : Prog) (n : Nat) : Prop :=
  ∀ ⦃s s' caller caller' fn args ctx fl res recs⦄, Sound P s → CSim caller caller' → fl.prevent = false →
    run P n s caller fn args ctx fl = some (s', res, recs) →
    Sound P s' ∧ ∃ res' recs', PRun P caller' fn args ctx fl res' recs' ∧ ResSim res res' ∧ RecsSim P recs recs'

theorem execBody_sim {P : Prog} {n : Nat} (H : RunSimAt P n) {b b' : Body} (hb : BSim b b') (hnp : NoPreventB b)
    {s s1 : St} {fr fr' fr1 : Frame} {o : Outcome} (hs : Sound P s) (hf : FSim fr fr')
    (h : E P n b s fr = some (s1, o, fr1)) :
    Sound P s1 ∧ ∃ o' fr1', PExec P b' fr' o' fr1' ∧ Outcome.sim o o' ∧ FSim fr1 fr1' := by
  rw [E] at h
  -- Two bodies although both sides run the same one (`WellBehaved` gives `BSim b b`): after a nested call they
  -- continue with `k o` and `k o'` for outcomes that agree only up to replay.
  fun_induction execBody (calleeAt P n) b s fr generalizing b' fr'
  case case1 =>
    cases h
    cases hb with | ret ho =>
    exact ⟨hs, _, _, PExec.ret, ho, hf⟩
  case case2 ih =>
    cases hb with | resource hb =>
    cases hnp with | resource hnp =>
    obtain ⟨hs1, o', fr1', hp, ho, hf1⟩ := ih hb hnp hs (fsim_resource hf _) h
    exact ⟨hs1, o', fr1', PExec.resource hp, ho, hf1⟩
  case case3 | case6 | case7 => cases h  -- no result
  case case4 o1 _ hc1 ih | case5 o1 _ hc1 ih =>
    cases hb with | call hk =>
    cases hnp with | call hfl hnk =>
    obtain ⟨hs2, res', recs', hpr, hres, hrecs⟩ := H hs (show CSim (some _) (some fr') from hf) hfl hc1
    obtain ⟨o1', hres1', he⟩ := hres.single (o := o1) (by simp)
    obtain ⟨hs1, o', fr1', hp, ho, hf1⟩ := ih (hk _ _ he) (hnk _) hs2 (fsim_foldl hrecs hf) h
    exact ⟨hs1, o', fr1', PExec.call hpr hres1' hp, ho, hf1⟩
  case case8 hc1 ih =>
    cases hb with | batch hk =>
    cases hnp with | batch hfl hnk =>
    obtain ⟨hs2, res', recs', hpr, hres, hrecs⟩ := H hs (show CSim (some _) (some fr') from hf) hfl hc1
    obtain ⟨hs1, o', fr1', hp, ho, hf1⟩ := ih (hk _ _ hres) (hnk _) hs2 (fsim_foldl hrecs hf) h
    exact ⟨hs1, o', fr1', PExec.batch hpr hp, ho, hf1⟩

theorem runLocal_sim {P : Prog} (hw : WellBehaved P) (hnp : NoPrevent P) {n : Nat} (H : RunSimAt P n)
    {s s1 : St} {key : Key} {fl : Flags} {o : Outcome} {r : Rec} (hs : Sound P s) (hfl : fl.prevent = false)
    (h : runLocal P (E P n) s key fl = some (s1, o, r)) :
    Sound P s1 ∧ ∃ ob' fr1', PExec P (P.body key.fn key.arg) (fr0 key false) ob' fr1' ∧
      Outcome.sim o (deliver fl ob') ∧ Rec.same r (mkRec key ob' fr1') := by
  cases hg : s.get key with
  | some r0 =>
    rw [runLocal_hit hg] at h; cases h
    obtain ⟨_, ⟨ob, fr1, hx, rfl⟩, hr⟩ := hs.get hg
    exact ⟨hs, ob, fr1, hx, serve_sim_deliver fl hr.2.1, hr⟩
  | none =>
    obtain ⟨s2, ob, fr1, hx, hr, ho, hst⟩ := runLocal_miss_inv hg h
    rw [hfl] at hx
    obtain ⟨hs2, ob', fr1', hpx, hob, hf1⟩ :=
      execBody_sim H (hw key.fn key.arg) (hnp key.fn key.arg) (hs.setTrace _) (FSim.refl _) hx
    have hsame : Rec.same r (mkRec key ob' fr1') := by
      rw [hr]; exact ⟨rfl, hob, hf1.2.2.1, hf1.2.2.2.1, hf1.2.2.2.2⟩
    refine ⟨?_, ob', fr1', hpx, by rw [ho]; exact deliver_sim fl hob, hsame⟩
    rw [hst]
    rcases storeAfter_cases s2 key ob r with h1 | ⟨_, _, h1⟩
    · rw [h1]; exact hs2
    · rw [h1]; exact hs2.put ⟨ob', fr1', hpx, rfl⟩ hsame

theorem seqLocal_sim {P : Prog} (hw : WellBehaved P) (hnp : NoPrevent P) {n : Nat} (H : RunSimAt P n)
    {fl : Flags} (hfl : fl.prevent = false) {keys : List Key} {s s' : St} {os : List Outcome} {rs : List Rec}
    (hs : Sound P s) (h : seqLocal P (E P n) fl s keys = some (s', os, rs)) :
    Sound P s' ∧ ∃ os' rs', PLoop P fl keys os' rs' ∧ simList os os' ∧ RecsSim P rs rs' := by
  fun_induction seqLocal P (E P n) fl s keys generalizing os rs
  case case1 =>
    cases h
    exact ⟨hs, [], [], PLoop.nil, trivial, trivial⟩
  case case2 | case3 => cases h  -- no result
  case case4 hl _ _ _ hb ih =>
    cases h
    obtain ⟨hs1, ob', fr1', hx, ho, hr⟩ := runLocal_sim hw hnp H hs hfl hl
    obtain ⟨hs', os', rs', hloop, hos, hrs⟩ := ih hs1 hb
    exact ⟨hs', _, _, PLoop.cons (by rw [hfl]; exact hx) hloop, ⟨ho, hos⟩, ⟨hr, ob', fr1', hx, rfl⟩, hrs⟩

theorem run_sim {P : Prog} (hw : WellBehaved P) (hnp : NoPrevent P) : ∀ n, RunSimAt P n := by
  intro n
  induction n with
  | zero =>
    intro s s' caller caller' fn args ctx fl res recs _ _ _ h
    cases h
  | succ n ih =>
    intro s s' caller caller' fn args ctx fl res recs hs hc hfl h
    rw [run_succ] at h
    rcases runBatchWith_inv (E_ext P n) h with ⟨hu, rfl, rfl, rfl⟩ | ⟨hu, hp, rfl, rfl, rfl⟩ | ⟨hu, hp, os, rfl, hb⟩
    · rw [hc.undeclared] at hu
      exact ⟨hs, _, _, PRun.undeclared hu args ctx fl, Outcome.sim_refl _, trivial⟩
    · rw [hc.undeclared] at hu
      rw [hc.prevented] at hp
      exact ⟨hs, _, _, PRun.prevented hu hp args ctx fl, Outcome.sim_refl _, trivial⟩
    · rw [hc.undeclared] at hu
      rw [hc.prevented] at hp
      obtain ⟨hs', os', rs', hloop, hos, hrs⟩ := seqLocal_sim hw hnp ih hfl hs hb
      rw [hc.effCtx] at hloop
      exact ⟨hs', .ok os', rs', PRun.ok hu hp hloop, hos, hrs⟩

theorem run_sim_top {P : Prog} (hw : WellBehaved P) (hnp : NoPrevent P) {n : Nat} {s s' : St} (hs : Sound P s) {fn : Fn}
    {args : List Val} {ctx : CtxSpec} {fl : Flags} (hfl : fl.prevent = false) {res} {recs : List Rec}
    (h : run P n s none fn args ctx fl = some (s', res, recs)) :
    Sound P s' ∧ ∃ m sd' res' recs', run P m emp none fn args ctx fl = some (sd', res', recs') ∧
      ResSim res res' ∧ RecsSim P recs recs' := by
  obtain ⟨hs', res', recs', ⟨m, hm⟩, hres, hrecs⟩ := run_sim hw hnp n hs (show CSim none none from trivial) hfl h
  obtain ⟨sd', _, e⟩ := hm emp rfl
  exact ⟨hs', m, sd', res', recs', e, hres, hrecs⟩

end Memento.Runner
