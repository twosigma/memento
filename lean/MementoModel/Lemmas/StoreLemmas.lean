import MementoModel.Lemmas.StoreCache

/-! One step of the filesystem backend against the dictionary: answers per operation, abstract state,
    invariant. Of the memory backend only what its step theorem in Props/C05 rests on. -/
namespace Memento.Store
open Memento

namespace MemBackend

/-- the entry the abstraction builds for a memento-table row -/
def absEntry (r : List ((Fn × Arg) × Option Bytes)) (p : (Fn × Arg) × Nat) : (Fn × Arg) × Entry :=
  (p.1, ⟨p.2, (alookup r p.1).getD none⟩)

theorem abs_eq (s : MemBackend) : abs s = ⟨s.mementos.map (absEntry s.result), s.metadata⟩ := rfl

theorem alookup_abs_entries (m : List ((Fn × Arg) × Nat)) (r) (k : Fn × Arg) :
    alookup (m.map (absEntry r)) k = (alookup m k).map (fun x => ⟨x, (alookup r k).getD none⟩) :=
  alookup_map_val m (fun k x => (⟨x, (alookup r k).getD none⟩ : Entry)) k

theorem map_absEntry_congr {m : List ((Fn × Arg) × Nat)} {r r' : List ((Fn × Arg) × Option Bytes)}
    (h : ∀ p ∈ m, alookup r' p.1 = alookup r p.1) : m.map (absEntry r') = m.map (absEntry r) := by
  apply List.map_congr_left
  intro p hp
  simp only [absEntry, h p hp]

theorem filter_map_absEntry {m : List ((Fn × Arg) × Nat)} {r} (f : Fn × Arg → Bool) :
    (m.map (absEntry r)).filter (fun p => f p.1) = (m.filter (fun p => f p.1)).map (absEntry r) := by
  rw [List.filter_map]; rfl

theorem map_absEntry_filter (m : List ((Fn × Arg) × Nat)) (r : List ((Fn × Arg) × Option Bytes))
    (f : Fn × Arg → Bool) :
    (m.filter (fun p => f p.1)).map (absEntry (r.filter (fun p => f p.1)))
      = (m.map (absEntry r)).filter (fun p => f p.1) := by
  rw [filter_map_absEntry f]
  apply map_absEntry_congr
  intro p hp
  have := (List.mem_filter.mp hp).2
  rw [alookup_filter r f, if_pos this]

theorem map_absEntry_aset (m : List ((Fn × Arg) × Nat)) (r : List ((Fn × Arg) × Option Bytes))
    (k : Fn × Arg) (mem : Nat) (val : Option Bytes) :
    (aset m k mem).map (absEntry (aset r k val)) = aset (m.map (absEntry r)) k ⟨mem, val⟩ := by
  simp only [aset_eq, List.map_cons]
  congr 1
  · simp [absEntry, alookup_cons]
  · rw [filter_map_absEntry (nekey k)]
    apply map_absEntry_congr
    intro p hp
    have := (List.mem_filter.mp hp).2
    have hne : ¬ k = p.1 := fun e => (nekey_iff _ _).mp this e.symm
    rw [alookup_cons, if_neg hne, alookup_filter r (nekey k), if_pos this]

end MemBackend

theorem MemInv.write {s : MemBackend} (h : MemInv s) (k : Fn × Arg) (mem : Nat) (val : Option Bytes)
    (md : List ((Fn × Arg × MKey) × Bytes)) :
    MemInv ⟨aset s.mementos k mem, aset s.result k val, md, false⟩ := by
  refine ⟨keys_aset_nodup _ _ h.nodup, ?_, rfl⟩
  intro p hp
  show (alookup (aset s.result k val) p.1).isSome = true
  rw [alookup_aset]
  rcases mem_aset hp with rfl | ⟨hp, hne⟩
  · simp
  · rw [if_neg hne]; exact h.hasResult p hp

theorem MemInv.filter {s : MemBackend} (h : MemInv s) (f : Fn × Arg → Bool)
    (md : List ((Fn × Arg × MKey) × Bytes)) :
    MemInv ⟨s.mementos.filter (fun p => f p.1), s.result.filter (fun p => f p.1), md, false⟩ := by
  refine ⟨keys_filter_nodup _ h.nodup, ?_, rfl⟩
  intro p hp
  have hp' := List.mem_filter.mp hp
  show (alookup (s.result.filter (fun p => f p.1)) p.1).isSome = true
  rw [alookup_filter s.result f, if_pos hp'.2]
  exact h.hasResult p hp'.1

def StepOk (s : FsBackend) (op : Op) : Prop :=
  (FsBackend.step s op).2 = (Spec.step (FsBackend.abs s) op).2 ∧ WF0 (FsBackend.step s op).1

open FsBackend

theorem fs_memoize {s : FsBackend} (h : WF0 s) (hw : s.readOnly = false) (fn arg ov mem val size wr)
    (hadm : FsBackend.admissible s (.memoize fn arg ov mem val size wr)) :
    StepOk s (.memoize fn arg ov mem val size wr) := by
  obtain ⟨hheap, hfresh, hval⟩ := hadm
  rcases hc : codecStore s.ds ov val with ⟨d1, ck⟩
  obtain ⟨hwf, hread, hstore, _⟩ := memoize_ds h.ds fn arg ov mem val hval hc
  unfold StepOk
  rw [step_memoize s hw, hc]
  refine ⟨rfl, ?_⟩
  generalize (d1.output (.memento fn arg) (.mrec mem ck)).1 = d2 at hwf hread hstore
  -- a memento the new store reads is the one just written, or an old one under another id
  have key : ∀ {fn' arg' m ck'}, readMemento d2 fn' arg' = some (m, ck') →
      (K.memento fn' arg' = K.memento fn arg ∧ m = mem ∧ ck' = ck) ∨
      (m ≠ mem ∧ readMemento s.ds fn' arg' = some (m, ck')) := by
    intro fn' arg' m ck' hr
    rw [hread] at hr
    split at hr
    · rename_i e; cases hr; exact Or.inl ⟨e, rfl, rfl⟩
    · exact Or.inr ⟨hfresh _ _ _ _ hr, hr⟩
  refine ⟨hwf, ?_, ?_, ?_⟩
  · intro m' mi hm' fn' arg' ck' hr'
    have hm' : alookup (aset s.heap mem ⟨fn, arg, ck⟩) m' = some mi := hm'
    rw [alookup_aset] at hm'
    rcases key hr' with ⟨e, rfl, rfl⟩ | ⟨hne, hr⟩
    · cases e
      rw [if_pos rfl] at hm'; cases hm'
      exact ⟨rfl, rfl, rfl⟩
    · rw [if_neg hne] at hm'
      exact h.heapOk hm' hr
  · intro fn1 arg1 fn2 arg2 m ck1 ck2 hr1 hr2
    rcases key hr1 with ⟨e1, rfl, _⟩ | ⟨hne1, hr1⟩ <;> rcases key hr2 with ⟨e2, h2, _⟩ | ⟨hne2, hr2⟩
    · cases e1; cases e2; exact ⟨rfl, rfl⟩
    · exact absurd rfl hne2
    · exact absurd h2 hne1
    · exact h.memUnique hr1 hr2
  · intro c' hc'
    have hc' : (cachePut s fn arg mem val size wr true).cache = some c' := hc'
    rw [cachePut_eq_mapCache] at hc'
    obtain ⟨c, hcache, rfl⟩ := mapCache_cache hc'
    have hco := h.cacheOk c hcache
    have hkne : ∀ k' : Cache.Key, k' ≠ ckey fn arg → ¬ K.memento k'.fn k'.arg = K.memento fn arg :=
      fun k' hk e => hk (by cases k'; cases e; rfl)
    have hne : ∀ {m'} {mi : MInfo}, alookup s.heap m' = some mi → m' ≠ mem := by
      intro m' mi hm e; rw [e, hheap] at hm; cases hm
    apply coherent_put
    · exact hco.inv
    · intro k' e hke hk
      exact (hco.entryOk k' e hke).transfer ((hstore _ _).trans (if_neg (hkne k' hk)))
        fun mi hmi => ((alookup_aset ..).trans (if_neg (hne hmi))).trans hmi
    · intro k' v' hkv hk
      exact (hco.refOk k' v' hkv).transfer ((hstore _ _).trans (if_neg (hkne k' (hk rfl))))
    · exact ⟨ck, val, (hstore _ _).trans (if_pos rfl), (alookup_aset ..).trans (if_pos rfl),
        fun _ => objBytes_objId val 0 hval⟩
    · intro _
      exact ⟨mem, ck, by rw [objBytes_objId val 0 hval]; exact (hstore _ _).trans (if_pos rfl)⟩

theorem fs_getm {s : FsBackend} (h : WF0 s) (ks : List (Fn × Arg)) : StepOk s (.getm ks) := by
  obtain ⟨a, c⟩ := getMementos_spec h ks
  refine ⟨?_, a⟩
  show Out.mems (getMementos s ks).2 = Out.mems _
  rw [c]
  congr 1
  apply List.map_congr_left
  intro k _
  rw [abs_eq, alookup_abs_entries, Option.map_map]
  rfl

theorem fs_lookread {s : FsBackend} (h : WF0 s) (fn : Fn) (arg : Arg) : StepOk s (.lookread fn arg) := by
  obtain ⟨g1, g3, g4⟩ := getMemento_spec h fn arg
  have g2 := (getMemento_same s fn arg).1
  unfold StepOk
  simp only [step, Spec.step]
  rcases hg : getMemento s fn arg with ⟨s1, om⟩
  rw [hg] at g1 g2 g3 g4
  simp only at g1 g2 g3 g4
  rw [abs_eq, alookup_abs_entries, Option.map_map]
  cases om with
  | none =>
    simp only
    refine ⟨?_, g1⟩
    cases hr : readMemento s.ds fn arg with
    | none => rfl
    | some p => rw [hr] at g3; cases g3
  | some m =>
    obtain ⟨ck, hr, hheap⟩ := g4 m rfl
    simp only
    generalize sizeOf s1 _ = sz
    generalize wrOf s1 _ = w
    obtain ⟨r1, r3, r4⟩ := readResult_spec g1 sz w hheap (g2 ▸ hr)
    rcases hrr : readResult s1 m sz w with ⟨s2, ov⟩
    rw [hrr] at r1 r3
    simp only at r1 r3
    rw [g2] at r3 r4
    cases ov with
    | none => rw [← r3] at r4; cases r4
    | some v =>
      simp only
      refine ⟨?_, r1⟩
      rw [hr]
      simp only [Option.map_some, Function.comp, ← r3, Option.getD_some]

theorem fs_ismem {s : FsBackend} (h : WF0 s) (fn : Fn) (arg : Arg) : StepOk s (.ismem fn arg) := by
  obtain ⟨a, c⟩ := isMemoized_spec h fn arg
  refine ⟨?_, a⟩
  show Out.bool (isMemoized s fn arg).2 = Out.bool _
  rw [c, abs_eq, alookup_abs_entries, Option.isSome_map]

theorem fs_fcall {s : FsBackend} (h : WF0 s) (hw : s.readOnly = false) (fn : Fn) (arg : Arg) :
    StepOk s (.fcall fn arg) := by
  unfold StepOk
  rw [step_fcall s hw]
  refine ⟨rfl, forget_wf0 h (Op.forgetSel_spec s.separate (.fcall fn arg)).1 ?_⟩
  intro c hc
  have hother : ∀ k : Cache.Key, k ≠ ckey fn arg → ((K.memento k.fn k.arg).call? == some (fn, arg)) = false := by
    intro k hk
    simp only [K.call?, beq_eq_false_iff_ne, ne_eq, Option.some.injEq]
    intro e; apply hk
    cases k; simp only at e; cases e; rfl
  have hm := Cache.mem_stepRaw_forgets (op := .fcall (ckey fn arg)) rfl c
  exact ⟨Cache.inv_step (.fcall (ckey fn arg)) hc,
    fun p hp => ⟨(hm.1 p hp).1, hother _ (ne_of_beq_false (hm.1 p hp).2)⟩,
    fun p hp => ⟨(hm.2 p hp).1, hother _ (ne_of_beq_false (hm.2 p hp).2)⟩⟩

theorem fs_ffn {s : FsBackend} (h : WF0 s) (hw : s.readOnly = false) (fn : Fn) : StepOk s (.ffn fn) := by
  unfold StepOk
  rw [step_ffn s hw]
  refine ⟨rfl, forget_wf0 h (Op.forgetSel_spec s.separate (.ffn fn)).1 ?_⟩
  intro c hc
  have hm := Cache.mem_stepRaw_forgets (op := .ffn fn) rfl c
  refine ⟨Cache.inv_step (.ffn fn) hc, ?_, ?_⟩
  · intro p hp
    obtain ⟨x, y⟩ := hm.1 p hp
    exact ⟨x, by simpa [K.fn?] using y⟩
  · intro p hp
    obtain ⟨x, y⟩ := hm.2 p hp
    exact ⟨x, by simpa [K.fn?] using y⟩

theorem fs_fall {s : FsBackend} (h : WF0 s) (hw : s.readOnly = false) : StepOk s .fall := by
  unfold StepOk
  rw [step_fall s hw]
  refine ⟨rfl, forget_wf0 h (Op.forgetSel_spec s.separate .fall).1 ?_⟩
  intro c hc
  refine ⟨Cache.inv_step .fall hc, ?_, ?_⟩
  · intro p hp; cases hp
  · intro p hp; cases hp

theorem fs_lsf {s : FsBackend} (h : WF0 s) : StepOk s .lsf :=
  ⟨congrArg Out.fns (lsf_eq h.ds), h⟩

theorem fs_lsm {s : FsBackend} (h : WF0 s) (fn : Fn) : StepOk s (.lsm fn) :=
  ⟨congrArg (fun l => Out.memset (sortDedup l)) (lsm_eq s.ds fn s.ds.links), h⟩

theorem fs_wmeta {s : FsBackend} (h : WF0 s) (hw : s.readOnly = false) (fn : Fn) (arg : Arg) (mk : MKey) (b : Bytes)
    (hadm : FsBackend.admissible s (.wmeta fn arg mk b)) : StepOk s (.wmeta fn arg mk b) := by
  obtain ⟨hwf, hread, hstore, _⟩ := wmeta_ds h.ds fn arg mk b hadm
  unfold StepOk
  rw [step_wmeta s hw]
  refine ⟨rfl, h.frame hwf rfl (fun fn arg p hp => hread fn arg ▸ hp) ?_⟩
  intro c hc
  exact ⟨c, hc, (h.cacheOk c hc).inv, fun p hp => ⟨hp, hstore _ _⟩, fun p hp => ⟨hp, hstore _ _⟩⟩

theorem fs_rmeta {s : FsBackend} (h : WF0 s) (fn : Fn) (arg : Arg) (mk : MKey) : StepOk s (.rmeta fn arg mk) := by
  unfold StepOk
  simp only [step, Spec.step, abs_eq, alookup_abs_mdata, DS.existsNV_eq]
  rcases h.ds.inputNV_mdat fn arg mk with e | ⟨b, e⟩
  · rw [e]; exact ⟨rfl, h⟩
  · rw [e]; exact ⟨rfl, h⟩

theorem fs_hold {s : FsBackend} (h : WF0 s) (b : Bytes) : StepOk s (.hold b) :=
  ⟨rfl, mapCache_wf0 h (fun c => Cache.hold c (b + 1))
    (fun _ hc => ⟨Cache.inv_step (.hold (b + 1)) hc, fun _ x => x, fun _ x => x⟩)⟩

theorem fs_drop {s : FsBackend} (h : WF0 s) (b : Bytes) : StepOk s (.drop b) :=
  ⟨rfl, mapCache_wf0 h (fun c => Cache.drop c (b + 1))
    (fun _ hc => ⟨Cache.inv_step (.drop (b + 1)) hc, fun _ x => x, fun _ x => x⟩)⟩

theorem step_ok {s : FsBackend} (h : WF0 s) (op : Op) (hadm : FsBackend.admissible s op)
    (hw : s.readOnly = false ∨ isPassive op = true) : StepOk s op := by
  have hwr : isPassive op = false → s.readOnly = false :=
    fun hp => hw.resolve_right (by rw [hp]; exact Bool.false_ne_true)
  cases op with
  | memoize fn arg ov mem val size wr => exact fs_memoize h (hwr rfl) fn arg ov mem val size wr hadm
  | getm ks => exact fs_getm h ks
  | lookread fn arg => exact fs_lookread h fn arg
  | ismem fn arg => exact fs_ismem h fn arg
  | fcall fn arg => exact fs_fcall h (hwr rfl) fn arg
  | ffn fn => exact fs_ffn h (hwr rfl) fn
  | fall => exact fs_fall h (hwr rfl)
  | lsf => exact fs_lsf h
  | lsm fn => exact fs_lsm h fn
  | wmeta fn arg k b => exact fs_wmeta h (hwr rfl) fn arg k b hadm
  | rmeta fn arg k => exact fs_rmeta h fn arg k
  | hold b => exact fs_hold h b
  | drop b => exact fs_drop h b

theorem step_abs (s : FsBackend) (h : DSWF s.ds) (op : Op) (hadm : DS.admissible s.ds op) :
    abs (step s op).1 = if s.readOnly then abs s else (Spec.step (abs s) op).1 := by
  rw [abs_eq, abs_eq, step_ds]
  cases s.readOnly with
  | true => rfl
  | false => exact (DS.step_refines h _ op hadm).2

theorem fs_refines {s : FsBackend} (h : WF s) (op : Op) (hadm : FsBackend.admissible s op) :
    (step s op).2 = (Spec.step (abs s) op).2 ∧
    abs (step s op).1 = (Spec.step (abs s) op).1 ∧
    WF (step s op).1 := by
  obtain ⟨hout, hwf⟩ := step_ok h.wf0 op hadm (Or.inl h.writable)
  refine ⟨hout, ?_, (wf_iff _).mpr ⟨hwf, (step_store s op).2.1.trans h.writable⟩⟩
  rw [step_abs s h.ds op (DS.admissible_of hadm), h.writable]
  rfl

-- a decidable sufficient condition for admissibility (for non-vacuity checks)
def FsBackend.admissibleB (s : FsBackend) : Op → Bool
  | .memoize _ _ _ mem val _ _ =>
    (alookup s.heap mem).isNone &&
    s.ds.objs.all (fun p => match p.2 with | .mrec m _ => m != mem | _ => true) &&
    (match val with | some b => decide (b + 1 < 1000000) | none => true)
  | .wmeta fn arg _ _ => (FsBackend.readMemento s.ds fn arg).isSome
  | _ => true

theorem FsBackend.admissible_of_B {s : FsBackend} {op : Op} (h : FsBackend.admissibleB s op = true) :
    FsBackend.admissible s op := by
  cases op with
  | memoize fn arg ov mem val size wr =>
    simp only [FsBackend.admissibleB, Bool.and_eq_true] at h
    obtain ⟨⟨h1, h2⟩, h3⟩ := h
    refine ⟨by simpa using h1, ?_, ?_⟩
    · intro fn' arg' m ck hr
      obtain ⟨v, _, ho⟩ := readMemento_eq.mp hr
      have := List.all_eq_true.mp h2 _ (alookup_mem ho)
      simpa using this
    · intro b hb; subst hb; simpa using h3
  | wmeta fn arg k b => exact h
  | _ => trivial

end Memento.Store
