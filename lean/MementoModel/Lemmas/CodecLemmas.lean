import MementoModel.Model.Codec
import MementoModel.Lemmas.ArgHashLemmas
/-! Each `decode_*` is a left inverse of its `encode_*` on the domain, from the texts (a text without `+` is fixed by
`replZ`, one without `Z` by `unZ`; `splitLast` finds the last `#`) up to the memento; what is emitted conforms to
the wire format, and is plain JSON exactly when no float is non-finite. -/
namespace Memento.Codec
open Memento.Json Memento.ArgHash

theorem replZ_cons {c : Char} {cs : List Char} (h : ∀ rest, c :: cs ≠ plus00 ++ rest) :
    replZ (c :: cs) = c :: replZ cs :=
  replZ.eq_2 c cs fun rest hc hcs => h rest (by rw [hc, hcs]; rfl)

theorem replZ_append_of_noPlus : ∀ (body rest : List Char), '+' ∉ body → replZ (body ++ rest) = body ++ replZ rest
  | [], rest, _ => by simp
  | c :: cs, rest, h => by
    have hc : c ≠ '+' := fun e => h (e ▸ List.mem_cons_self)
    have ih := replZ_append_of_noPlus cs rest fun h' => h (List.mem_cons_of_mem _ h')
    rw [List.cons_append, replZ_cons fun r e => hc (List.cons.inj e).1, ih]
    rfl

theorem replZ_of_noPlus {cs : List Char} (h : '+' ∉ cs) : replZ cs = cs := by
  simpa [replZ] using replZ_append_of_noPlus cs [] h

theorem not_mem_of_body {c : Char} (hc : bodyChar c = false) {l : List Char} (h : l.all bodyChar = true) : c ∉ l :=
  fun hm => Bool.noConfusion ((List.all_eq_true.mp h c hm).symm.trans hc)

theorem bodyChar_of_isDigit {c : Char} (h : c.isDigit = true) : bodyChar c = true := by
  simp [bodyChar, h]

theorem replZ_tz {tz : List Char} (h : tzShape tz = true) :
    (tz = plus00 ∧ replZ tz = ['Z']) ∨ (replZ tz = tz ∧ 'Z' ∉ tz) := by
  unfold tzShape at h
  split at h
  next s a b c d =>
    simp only [Bool.and_eq_true, Bool.or_eq_true, beq_iff_eq, and_assoc] at h
    obtain ⟨hs, ha, hb, hc, hd⟩ := h
    have hbody : [a, b, ':', c, d].all bodyChar = true := by
      simp only [List.all_cons, List.all_nil, bodyChar_of_isDigit, ha, hb, hc, hd]
      rfl
    have hnz : 'Z' ∉ s :: [a, b, ':', c, d] := by
      intro hm
      rcases List.mem_cons.mp hm with e | hm
      · rcases hs with rfl | rfl <;> exact absurd e (by decide)
      · exact not_mem_of_body rfl hbody hm
    by_cases hz : [s, a, b, ':', c, d] = plus00
    · left; exact ⟨hz, by rw [hz]; rfl⟩
    · right
      refine ⟨?_, hnz⟩
      rw [replZ_cons, replZ_of_noPlus (not_mem_of_body rfl hbody)]
      -- a zone that starts with `+00:00` is `+00:00`
      intro rest e
      apply hz
      simp only [plus00, List.cons_append, List.nil_append, List.cons.injEq] at e
      obtain ⟨rfl, rfl, rfl, _, rfl, rfl, rfl⟩ := e
      rfl
  next => simp at h

theorem unZ_append_Z (b : List Char) : unZ (b ++ ['Z']) = b ++ plus00 := by
  simp [unZ]

theorem unZ_of_noZ {cs : List Char} (h : 'Z' ∉ cs) : unZ cs = cs := by
  unfold unZ
  split
  next hl => exact absurd (List.mem_of_getLast? hl) h
  next => rfl

theorem isDateOnly_chars {l : List Char} (h : isDateOnly l = true) : ∀ c ∈ l, c.isDigit = true ∨ c = '-' := by
  unfold isDateOnly at h
  split at h
  next a b c d e f g i =>
    simp only [Bool.and_eq_true, and_assoc] at h
    obtain ⟨ha, hb, hc, hd, he, hf, hg, hi⟩ := h
    simp only [List.forall_mem_cons]
    exact ⟨.inl ha, .inl hb, .inl hc, .inl hd, .inr trivial, .inl he, .inl hf, .inr trivial, .inl hg, .inl hi,
      fun _ hx => nomatch hx⟩
  next => simp at h

theorem isDateOnly_body {l : List Char} (h : isDateOnly l = true) : l.all bodyChar = true :=
  List.all_eq_true.mpr fun c hc => by
    rcases isDateOnly_chars h c hc with h' | rfl
    · exact bodyChar_of_isDigit h'
    · rfl

theorem not_dateOnly_of_T {l : List Char} (h : 'T' ∈ l) : isDateOnly l = false := by
  cases hd : isDateOnly l with
  | false => rfl
  | true =>
    rcases isDateOnly_chars hd 'T' h with h' | h'
    · revert h'; decide
    · revert h'; decide

theorem unZ_replZ_of_wfDateTime (cs : List Char)
    (h : (let body := if tzShape (cs.drop (cs.length - 6)) then cs.take (cs.length - 6) else cs
          body.all bodyChar && body.contains 'T') = true) :
    unZ (replZ cs) = cs ∧ isDateOnly (replZ cs) = false := by
  simp only [Bool.and_eq_true, List.contains_iff_mem] at h
  by_cases ht : tzShape (cs.drop (cs.length - 6)) = true
  · rw [if_pos ht] at h
    obtain ⟨hb, hT⟩ := h
    have hsplit : cs = cs.take (cs.length - 6) ++ cs.drop (cs.length - 6) := (List.take_append_drop _ _).symm
    generalize cs.take (cs.length - 6) = body at *
    generalize cs.drop (cs.length - 6) = tz at *
    subst hsplit
    rw [replZ_append_of_noPlus _ _ (not_mem_of_body rfl hb)]
    rcases replZ_tz ht with ⟨h1, h2⟩ | ⟨h2, h3⟩
    · rw [h2, h1]
      exact ⟨unZ_append_Z _, not_dateOnly_of_T (List.mem_append_left _ hT)⟩
    · rw [h2]
      refine ⟨unZ_of_noZ ?_, not_dateOnly_of_T (List.mem_append_left _ hT)⟩
      intro hm
      rcases List.mem_append.mp hm with hm | hm
      · exact not_mem_of_body rfl hb hm
      · exact h3 hm
  · rw [if_neg ht] at h
    obtain ⟨hb, hT⟩ := h
    rw [replZ_of_noPlus (not_mem_of_body rfl hb)]
    exact ⟨unZ_of_noZ (not_mem_of_body rfl hb), not_dateOnly_of_T hT⟩

theorem decDatetime_encDatetime_datetime {iso : String} (h : wfDateTime iso = true) :
    decDatetime (encDatetime iso) = .datetime iso := by
  have := unZ_replZ_of_wfDateTime iso.toList h
  simp only [decDatetime, encDatetime, String.toList_ofList, this.1, this.2, String.ofList_toList]
  rfl

theorem decTimeText_encDatetime {iso : String} (h : wfDateTime iso = true) :
    decTimeText (encDatetime iso) = iso := by
  have := unZ_replZ_of_wfDateTime iso.toList h
  simp only [decTimeText, encDatetime, String.toList_ofList, this.1, String.ofList_toList]

theorem decDatetime_encDatetime_date {iso : String} (h : wfDate iso = true) :
    decDatetime (encDatetime iso) = .date iso := by
  unfold wfDate at h
  have hb := isDateOnly_body h
  simp only [decDatetime, encDatetime, replZ_of_noPlus (not_mem_of_body rfl hb), unZ_of_noZ (not_mem_of_body rfl hb), h,
    String.ofList_toList]
  rfl

theorem splitLast_cons_some {c x : Char} {xs a b : List Char} (h : splitLast c xs = some (a, b)) :
    splitLast c (x :: xs) = some (x :: a, b) := by
  rw [splitLast, h]

theorem splitLast_cons_none {c x : Char} {xs : List Char} (h : splitLast c xs = none) :
    splitLast c (x :: xs) = if x = c then some ([], xs) else none := by
  rw [splitLast, h]

theorem splitLast_ne_none {c : Char} {l : List Char} (h : c ∈ l) : splitLast c l ≠ none := by
  fun_induction splitLast c l with
  | case1 => cases h
  | case2 x xs a b heq ih => exact Option.some_ne_none _
  | case3 xs heq ih => exact Option.some_ne_none _
  | case4 x xs heq hx ih =>
    exact absurd heq (ih ((List.mem_cons.mp h).resolve_left fun e => hx e.symm))

theorem splitLast_spec {c : Char} {l a b : List Char} (h : splitLast c l = some (a, b)) :
    l = a ++ c :: b ∧ c ∉ b := by
  fun_induction splitLast c l generalizing a b with
  | case1 => cases h
  | case2 x xs a' b' heq ih =>
    cases h
    exact ⟨congrArg (x :: ·) (ih heq).1, (ih heq).2⟩
  | case3 xs heq ih =>
    cases h
    exact ⟨rfl, fun hm => splitLast_ne_none hm heq⟩
  | case4 x xs heq hx ih => cases h

theorem splitLast_none {c : Char} {l : List Char} (h : c ∉ l) : splitLast c l = none :=
  Option.eq_none_iff_forall_ne_some.mpr fun (a, _) e =>
    h ((splitLast_spec e).1 ▸ List.mem_append_right a List.mem_cons_self)

theorem splitLast_append {c : Char} : ∀ (a b : List Char), c ∉ b → splitLast c (a ++ c :: b) = some (a, b)
  | [], b, h => by rw [List.nil_append, splitLast_cons_none (splitLast_none h), if_pos rfl]
  | x :: a, b, h => splitLast_cons_some (splitLast_append a b h)

theorem toList_encVKey (k : VKey) : (encVKey k).toList = k.key.toList ++ '#' :: k.version.toList := by
  simp [encVKey, String.toList_append]

theorem decVKey_encVKey_iff (k : VKey) : decVKey (encVKey k) = k ↔ '#' ∉ k.version.toList := by
  unfold decVKey
  rw [toList_encVKey]
  constructor
  · intro h
    split at h
    next a b heq =>
      have hs := splitLast_spec heq
      have : b = k.version.toList := by
        have := congrArg VKey.version h
        simp only at this
        rw [← this, String.toList_ofList]
      rw [← this]; exact hs.2
    next heq =>
      exact absurd heq (splitLast_ne_none (by simp))
  · intro h
    rw [splitLast_append _ _ h]
    simp [String.ofList_toList]

theorem lget_noMT {o : ArgObj} (h : noMT o = true) : lget (someVals o.toList) "_mementoType" = none := by
  refine Store.alookup_eq_none_iff.mpr fun hm => ?_
  rw [someVals, map_fst_map_snd] at hm
  rw [noMT, List.contains_iff_mem.mpr hm] at h
  exact Bool.noConfusion h

/- In the walks over `Arg` the hypotheses are taken by `fun`, as in `ArgHash.decode_fix`. -/
mutual
  theorem decode_encode_wf : ∀ a : Arg, wfArg a = true → decode (encode a) = some a
    | .none => fun _ => fix_none
    | .bool b => fun _ => fix_bool b
    | .int z => fun _ => fix_int z
    | .float t => fun h => fix_float (by rw [wfArg, Bool.not_eq_true'] at h; exact h)
    | .str s => fun _ => fix_str s
    | .date iso => fun _ => fix_date iso
    | .datetime iso => fun _ => fix_datetime iso
    | .list l => fun h => (fix_list_iff l).mpr (decodeL_encodeL_wf l h)
    | .dict d => fun h => by
      simp only [wfArg, Bool.and_eq_true] at h
      exact fix_dict (fix_of_wfArgO d h.1) (lget_noMT h.2)
    | .fnref qn pa pk pn => fun h => by
      simp only [wfArg, Bool.and_eq_true] at h
      exact fix_fnref (decodeL_encodeL_wf pa h.1.1)
        (fix_dict (fix_of_wfArgO pk h.1.2) (lget_noMT h.2))
  theorem decodeL_encodeL_wf : ∀ l : ArgList, wfArgL l = true → decodeL (encodeL l) = some l
    | .nil => fun _ => by simp [encodeL, decodeL]
    | .cons a l => fun h => by
      simp only [wfArgL, Bool.and_eq_true] at h
      simp [encodeL, decodeL, decode_encode_wf a h.1, decodeL_encodeL_wf l h.2]
  theorem fix_of_wfArgO : ∀ o : ArgObj, wfArgO o = true → ∀ p ∈ o.toList, Fix p.2
    | .nil => fun _ _ hp => nomatch hp
    | .cons k a o => fun h p hp => by
      simp only [wfArgO, Bool.and_eq_true] at h
      rcases List.mem_cons.mp hp with rfl | hp
      · exact decode_encode_wf a h.1
      · exact fix_of_wfArgO o h.2 p hp
end

theorem decodeO_encodeO_wf : ∀ o : ArgObj, wfArgO o = true → decodeO (encodeO o) = someVals o.toList :=
  fun o h => decodeO_encodeO_of_fix (fix_of_wfArgO o h)

theorem normL_wf {l : ArgList} (h : wfArgL l = true) : normL l = some l := by
  have := decode_encode_wf (.list l) h
  simp [normL, normalize, this]

theorem normO_wf {o : ArgObj} (h : wfArgO o = true) (hm : noMT o = true) : normO o = some o := by
  have := decode_encode_wf (.dict o) (by simp [wfArg, h, hm])
  simp [normO, normalize, this]

theorem jstrings_strList : ∀ pn : List String, jstrings (strList pn) = some pn
  | [] => rfl
  | s :: r => by simp [strList, jstrings, jstrings_strList r]

theorem resolveNames_agree {cb : CodeBase} {qn : String} {pn : List String} (h : namesAgree cb qn pn = true) :
    resolveNames cb qn (some pn) = pn := by
  unfold namesAgree at h
  unfold resolveNames
  split at h
  next pn' heq => simpa using h
  next heq => rfl

theorem decRef_refObj {cb : CodeBase} {qn : String} {pa : ArgList} {pk : ArgObj} {pn : List String}
    (h1 : decArgL cb (encArgL pa) = some pa) (h2 : decArgO cb (encArgO pk) = some pk)
    (hpa : wfArgL pa = true) (hpk : wfArgO pk = true) (hmt : noMT pk = true) (hn : namesAgree cb qn pn = true) :
    decRef cb (refObj qn (encArgL pa) (encArgO pk) pn) = some (qn, pa, pk, pn) := by
  simp [refObj, decRef, fld, h1, h2, jstrings_strList, normL_wf hpa, normO_wf hpk hmt, resolveNames_agree hn]

/- The two fields of a typed node, by evaluation. `decArg` looks `value` up in a `match h : …`, where `simp` can
   rewrite only by definitional unfolding: unfolding `fld` there would compare the key strings by `whnf` at every use. -/
theorem fld_tagged_type (t v : JVal) : fld (.cons "type" t (.cons "value" v .nil)) "type" = some t := rfl

theorem fld_tagged_value (t v : JVal) : fld (.cons "type" t (.cons "value" v .nil)) "value" = some v := rfl

mutual
  theorem decArg_encArg (cb : CodeBase) : ∀ a : Arg, wfArg a = true → resolved cb a = true → decArg cb (encArg a) = some a
    | .none => fun _ _ => by simp [encArg, decArg, fld]
    | .bool _ | .str _ => fun _ _ => by simp [encArg, decArg, tagged, fld_tagged_type, fld_tagged_value]
    | .int z => fun _ _ => by
      simp [encArg, decArg, tagged, fld_tagged_type, fld_tagged_value, isIntTok_intTok, intTok_toInt]
    | .float t => fun h _ => by
      simp only [wfArg, Bool.not_eq_true'] at h
      simp [encArg, decArg, tagged, fld_tagged_type, fld_tagged_value, h]
    | .date iso => fun h _ => by
      simp [encArg, decArg, tagged, fld_tagged_type, fld_tagged_value, fnRefTag,
        decDatetime_encDatetime_date (iso := iso) h]
    | .datetime iso => fun h _ => by
      simp [encArg, decArg, tagged, fld_tagged_type, fld_tagged_value, fnRefTag,
        decDatetime_encDatetime_datetime (iso := iso) h]
    | .list l => fun h hr => by
      simp [encArg, decArg, tagged, fld_tagged_type, fld_tagged_value, fnRefTag, decArgL_encArgL cb l h hr]
    | .dict d => fun h hr => by
      simp only [wfArg, Bool.and_eq_true] at h
      simp [encArg, decArg, tagged, fld_tagged_type, fld_tagged_value, fnRefTag, decArgO_encArgO cb d h.1 hr]
    | .fnref qn pa pk pn => fun h hr => by
      simp only [wfArg, Bool.and_eq_true] at h
      simp only [resolved, Bool.and_eq_true] at hr
      obtain ⟨⟨hpa, hpk⟩, hmt⟩ := h
      obtain ⟨⟨rpa, rpk⟩, hn⟩ := hr
      have := decRef_refObj (decArgL_encArgL cb pa hpa rpa) (decArgO_encArgO cb pk hpk rpk) hpa hpk hmt hn
      simp [encArg, decArg, tagged, fld_tagged_type, fld_tagged_value, fnRefTag, this]
  theorem decArgL_encArgL (cb : CodeBase) : ∀ l : ArgList, wfArgL l = true → resolvedL cb l = true → decArgL cb (encArgL l) = some l
    | .nil => fun _ _ => by simp [encArgL, decArgL]
    | .cons a l => fun h hr => by
      simp only [wfArgL, Bool.and_eq_true] at h
      simp only [resolvedL, Bool.and_eq_true] at hr
      simp [encArgL, decArgL, decArg_encArg cb a h.1 hr.1, decArgL_encArgL cb l h.2 hr.2]
  theorem decArgO_encArgO (cb : CodeBase) : ∀ o : ArgObj, wfArgO o = true → resolvedO cb o = true → decArgO cb (encArgO o) = some o
    | .nil => fun _ _ => by simp [encArgO, decArgO]
    | .cons k a o => fun h hr => by
      simp only [wfArgO, Bool.and_eq_true] at h
      simp only [resolvedO, Bool.and_eq_true] at hr
      simp [encArgO, decArgO, decArg_encArg cb a h.1 hr.1, decArgO_encArgO cb o h.2 hr.2]
end

theorem decFnRef_encRef {cb : CodeBase} {r : FnRef} (h : wfRef cb r = true) : decFnRef cb (encRef r) = some r := by
  simp only [wfRef, Bool.and_eq_true, and_assoc] at h
  obtain ⟨hpa, hpk, hmt, rpa, rpk, hn⟩ := h
  simp [decFnRef, encRef, decRef_refObj (decArgL_encArgL cb _ hpa rpa) (decArgO_encArgO cb _ hpk rpk) hpa hpk hmt hn]

theorem decCall_encCall {cb : CodeBase} {c : Call} (h : wfCall cb c = true) : decCall cb (encCall c) = some c := by
  simp only [wfCall, Bool.and_eq_true, and_assoc] at h
  obtain ⟨hr, ha, hk, hkm, hc, hcm, ra, rk, rc, he⟩ := h
  simp [decCall, encCall, fld, decFnRef_encRef hr, decOptArgL, decOptArgO, decArgL_encArgL cb _ ha ra,
    decArgO_encArgO cb _ hk rk, decArgO_encArgO cb _ hc rc, normL_wf ha, normO_wf hk hkm, normO_wf hc hcm, he]

theorem jtoList_jlistOf : ∀ l : List JVal, jtoList (jlistOf l) = l
  | [] => rfl
  | v :: r => by simp [jlistOf, jtoList, jtoList_jlistOf r]

theorem mapOpt_map {α} {f : JVal → Option α} {g : α → JVal} : ∀ {l : List α}, (∀ a ∈ l, f (g a) = some a) →
    mapOpt f (l.map g) = some l
  | [], _ => rfl
  | a :: r, h => by
    have h1 := h a (by simp)
    have h2 := mapOpt_map (f := f) (g := g) (l := r) (fun x hx => h x (List.mem_cons_of_mem _ hx))
    simp [mapOpt, h1, h2]

theorem decOptList_encOptList {α} {f : JVal → Option α} {g : α → JVal} {p : α → Bool} (hfg : ∀ a, p a = true → f (g a) = some a)
    {l : Option (List α)} (h : wfOptList p l = true) : decOptList f (encOptList g l) = some l := by
  cases l with
  | none => rfl
  | some l =>
    simp only [wfOptList, List.all_eq_true] at h
    simp [encOptList, decOptList, jtoList_jlistOf, mapOpt_map (fun a ha => hfg a (h a ha))]

theorem decOptStr_optStr (s : Option String) : decOptStr (optStr s) = some s := by
  cases s <;> rfl

theorem decResource_encResource (r : Resource) : decResource (encResource r) = some r := by
  simp [decResource, encResource, fld, decOptStr_optStr]

theorem ResultType.mem_all (r : ResultType) : r ∈ ResultType.all := by
  cases r <;> decide

/-- over the list, not by cases on `r`: one evaluation of the table instead of one per member -/
theorem ofName_name_all : ∀ r ∈ ResultType.all, ResultType.ofName r.name = some r := by decide +kernel

theorem ofName_name (r : ResultType) : ResultType.ofName r.name = some r :=
  ofName_name_all r r.mem_all

theorem decRuntime_wf {t : String} (h : wfRuntime t = true) : decRuntime (.num t) = some t := by
  simp only [wfRuntime, Bool.and_eq_true, Bool.not_eq_true'] at h
  simp [decRuntime, h.1, h.2]

theorem decContentKey_enc {ck : Option VKey} (h : (match ck with | none => true | some k => wfVKey k) = true) :
    decContentKey (encContentKey ck) = some ck := by
  cases ck with
  | none => rfl
  | some k =>
    have : decVKey (encVKey k) = k := (decVKey_encVKey_iff k).mpr (by simpa [wfVKey] using h)
    simp [encContentKey, decContentKey, this]

theorem decMemento_encMemento {cb : CodeBase} {m : Memento} (h : wfMemento cb m = true) :
    decMemento cb (encMemento m) = some m := by
  simp only [wfMemento, Bool.and_eq_true, and_assoc] at h
  obtain ⟨ht, hc, hi, hd, hr, hk⟩ := h
  have hdeps : mapOpt (decFnRef cb) (m.deps.map encRef) = some m.deps :=
    mapOpt_map (fun r hr' => decFnRef_encRef (List.all_eq_true.mp hd r hr'))
  have hinv := decOptList_encOptList (f := decCall cb) (g := encCall) (p := wfCall cb) (fun a ha => decCall_encCall ha) hi
  have hres : decOptList decResource (encOptList encResource m.resources) = some m.resources :=
    decOptList_encOptList (p := fun _ => true) (fun a _ => decResource_encResource a) (by cases m.resources <;> simp [wfOptList])
  simp [decMemento, encMemento, encMeta, fld, decCall_encCall hc, hinv, hres, decRuntime_wf hr, ofName_name,
    jtoList_jlistOf, hdeps, decOptStr_optStr, decContentKey_enc hk, decTimeText_encDatetime ht]

theorem allStr_strList : ∀ pn : List String, allStr (strList pn) = true
  | [] => rfl
  | s :: r => by simp [strList, allStr, allStr_strList r]

theorem wireArg_tagged (ty : String) (v : JVal) : wireArg (tagged ty v) = wireVal ty v := by
  simp [tagged, wireArg]

mutual
  theorem wireArg_encArg : ∀ a : Arg, wireArg (encArg a) = true
    | .none => by simp [encArg, wireArg]
    | .bool _ | .int _ | .float _ | .str _ | .date _ | .datetime _ => by
      simp [encArg, wireArg_tagged, wireVal]
    | .list l => by simp [encArg, wireArg_tagged, wireVal, wireArgL_encArgL l]
    | .dict d => by simp [encArg, wireArg_tagged, wireVal, wireArgO_encArgO d]
    | .fnref qn pa pk pn => by
      simp [encArg, wireArg_tagged, wireVal, refObj, wireRefO, fnRefTag, wireArgL_encArgL pa, wireArgO_encArgO pk,
        allStr_strList]
  theorem wireArgL_encArgL : ∀ l : ArgList, wireArgL (encArgL l) = true
    | .nil => by simp [encArgL, wireArgL]
    | .cons a l => by simp [encArgL, wireArgL, wireArg_encArg a, wireArgL_encArgL l]
  theorem wireArgO_encArgO : ∀ o : ArgObj, wireArgO (encArgO o) = true
    | .nil => by simp [encArgO, wireArgO]
    | .cons k a o => by simp [encArgO, wireArgO, wireArg_encArg a, wireArgO_encArgO o]
end

theorem wireRef_encRef (r : FnRef) : wireRef (encRef r) = true := by
  simp [encRef, refObj, wireRef, wireRefO, wireArgL_encArgL, wireArgO_encArgO, allStr_strList]

theorem wireCall_encCall (c : Call) : wireCall (encCall c) = true := by
  simp [encCall, wireCall, wireRef_encRef, wireArgL_encArgL, wireArgO_encArgO]

theorem isOptStr_optStr (s : Option String) : isOptStr (optStr s) = true := by cases s <;> rfl

theorem wireResource_enc (r : Resource) : wireResource (encResource r) = true := by
  simp [encResource, wireResource, isOptStr_optStr]

theorem allJ_map {α} {p : JVal → Bool} {g : α → JVal} (h : ∀ a, p (g a) = true) : ∀ l : List α, allJ p (jlistOf (l.map g)) = true
  | [] => rfl
  | a :: r => by simp [jlistOf, allJ, h a, allJ_map h r]

theorem wireOptList_enc {α} {p : JVal → Bool} {g : α → JVal} (h : ∀ a, p (g a) = true) (l : Option (List α)) :
    wireOptList p (encOptList g l) = true := by
  cases l with
  | none => rfl
  | some l => simp [encOptList, wireOptList, allJ_map h]

theorem wireMemento_encMemento (m : Memento) : wireMemento (encMemento m) = true := by
  have hck : isOptStr (encContentKey m.contentKey) = true := by cases m.contentKey <;> rfl
  simp [encMemento, wireMemento, encMeta, wireMeta, wireCall_encCall, wireOptList_enc wireCall_encCall,
    wireOptList_enc wireResource_enc, ofName_name, allJ_map wireRef_encRef, isOptStr_optStr, hck]

theorem strict_strList : ∀ pn : List String, strictJsonL (strList pn) = true
  | [] => rfl
  | s :: r => by simp [strList, strictJsonL, strictJson, strict_strList r]

theorem isIntTok_of_nonFinite {t : String} (h : nonFiniteTok t = true) : isIntTok t = false := by
  simp only [nonFiniteTok, Bool.or_eq_true, beq_iff_eq] at h
  rcases h with (rfl | rfl) | rfl <;> decide +kernel

theorem nonFinite_intTok (z : Int) : nonFiniteTok (intTok z) = false :=
  Bool.eq_false_iff.mpr fun h =>
    Bool.noConfusion ((isIntTok_of_nonFinite h).symm.trans (isIntTok_intTok z))

theorem strictJson_tagged (ty : String) (v : JVal) : strictJson (tagged ty v) = strictJson v := by
  simp [tagged, strictJson, strictJsonO]

mutual
  theorem strict_encArg_eq : ∀ a : Arg, strictJson (encArg a) = finiteArg a
    | .none => by simp [encArg, strictJson, strictJsonO, finiteArg]
    | .int z => by simp [encArg, strictJson_tagged, strictJson, nonFinite_intTok, finiteArg]
    | .bool _ | .float _ | .str _ | .date _ | .datetime _ => by
      simp [encArg, strictJson_tagged, strictJson, finiteArg]
    | .list l => by simp [encArg, strictJson_tagged, strictJson, strict_encArgL_eq l, finiteArg]
    | .dict d => by simp [encArg, strictJson_tagged, strictJson, strict_encArgO_eq d, finiteArg]
    | .fnref qn pa pk pn => by
      simp [encArg, strictJson_tagged, refObj, strictJson, strictJsonO, strict_encArgL_eq pa, strict_encArgO_eq pk,
        strict_strList, finiteArg]
  theorem strict_encArgL_eq : ∀ l : ArgList, strictJsonL (encArgL l) = finiteArgL l
    | .nil => by simp [encArgL, strictJsonL, finiteArgL]
    | .cons a l => by simp [encArgL, strictJsonL, strict_encArg_eq a, strict_encArgL_eq l, finiteArgL]
  theorem strict_encArgO_eq : ∀ o : ArgObj, strictJsonO (encArgO o) = finiteArgO o
    | .nil => by simp [encArgO, strictJsonO, finiteArgO]
    | .cons k a o => by simp [encArgO, strictJsonO, strict_encArg_eq a, strict_encArgO_eq o, finiteArgO]
end

theorem strict_optStr (s : Option String) : strictJson (optStr s) = true := by cases s <;> rfl

theorem strict_encResource (r : Resource) : strictJson (encResource r) = true := by
  simp [encResource, strictJson, strictJsonO, strict_optStr]

theorem strict_encRef_eq (r : FnRef) : strictJson (encRef r) = finiteRef r := by
  simp [encRef, refObj, strictJson, strictJsonO, strict_encArgL_eq, strict_encArgO_eq, strict_strList, finiteRef]

theorem strict_encCall_eq (c : Call) : strictJson (encCall c) = finiteCall c := by
  simp [encCall, strictJson, strictJsonO, strict_encRef_eq, strict_encArgL_eq, strict_encArgO_eq, finiteCall, Bool.and_assoc]

theorem strictL_map_eq {α} {g : α → JVal} {p : α → Bool} (h : ∀ a, strictJson (g a) = p a) :
    ∀ l : List α, strictJsonL (jlistOf (l.map g)) = l.all p
  | [] => rfl
  | a :: r => by simp [jlistOf, strictJsonL, h a, strictL_map_eq h r]

theorem strict_encOptList_eq {α} {g : α → JVal} {p : α → Bool} (h : ∀ a, strictJson (g a) = p a)
    (l : Option (List α)) : strictJson (encOptList g l) = wfOptList p l := by
  cases l with
  | none => rfl
  | some l => simp [encOptList, strictJson, strictL_map_eq h l, wfOptList]

theorem strict_encMemento_eq (m : Memento) : strictJson (encMemento m) = finiteMemento m := by
  have hres : strictJson (encOptList encResource m.resources) = true := by
    rw [strict_encOptList_eq (p := fun _ => true) (fun a => strict_encResource a)]
    cases m.resources <;> simp [wfOptList]
  have hck : strictJson (encContentKey m.contentKey) = true := by cases m.contentKey <;> rfl
  simp [encMemento, encMeta, strictJson, strictJsonO, strict_encCall_eq, strict_encOptList_eq strict_encCall_eq,
    hres, strictL_map_eq strict_encRef_eq, strict_optStr, hck, finiteMemento, Bool.and_assoc]
  -- the document lists the runtime before the dependencies, `finiteMemento` after them
  rw [Bool.and_left_comm (!nonFiniteTok m.runtime)]

theorem strict_encArg : ∀ a : Arg, finiteArg a = true → strictJson (encArg a) = true :=
  fun a h => (strict_encArg_eq a).trans h

theorem strict_encMemento {m : Memento} (h : finiteMemento m = true) : strictJson (encMemento m) = true :=
  (strict_encMemento_eq m).trans h

end Memento.Codec
