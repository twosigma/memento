import MementoModel.Lemmas.Closure
import MementoModel.Lemmas.AList

/-! Rule collection = reachability in the reference graph (name level); consequences for the
dependency reports. -/
namespace Memento.Version

/-- the traversal may enumerate a definition's references in any order -/
def OrdOK (ord : List Name → List Name) : Prop := ∀ l, (ord l).Perm l

theorem ordOK_id : OrdOK id := fun _ => List.Perm.refl _

theorem ordOK_reverse : OrdOK List.reverse := fun l => List.reverse_perm l

theorem lookup_eq_alookup (P : Prog) (n : Name) : lookup P n = Store.alookup P n :=
  Store.alookup_unique lookup (fun _ => rfl) (fun _ _ _ => rfl) P n

theorem lookup_some_mem {P : Prog} {n : Name} {d : Def} (h : lookup P n = some d) : (n, d) ∈ P :=
  Store.alookup_mem (lookup_eq_alookup P n ▸ h)

theorem lookup_mem_names {P : Prog} {n : Name} {d : Def} (h : lookup P n = some d) : n ∈ names P := by
  unfold names
  exact List.mem_append_left _ (List.mem_map.mpr ⟨(n, d), lookup_some_mem h, rfl⟩)

theorem refs_mem_names {P : Prog} {n : Name} {d : Def} {r : Name} (h : lookup P n = some d) (hr : r ∈ d.refs) :
    r ∈ names P := by
  unfold names
  exact List.mem_append_right _ (List.mem_flatMap.mpr ⟨(n, d), lookup_some_mem h, hr⟩)

theorem length_flatMap_const {α β : Type} {f : α → List β} {k : Nat} (h : ∀ a, (f a).length = k) (l : List α) :
    (l.flatMap f).length = l.length * k := by
  induction l with
  | nil => simp
  | cons a t ih => rw [List.flatMap_cons, List.length_append, ih, h, List.length_cons, Nat.succ_mul, Nat.add_comm]

/-- four kinds per pair of a parent and a target, plus the root, plus one. Closed examples rewrite with this first: the
    kernel would otherwise build `allNodes P f` only to take its length. -/
theorem fuel_eq (P : Prog) (f : Name) : fuel P f = (names P).length * ((names P).length * 4) + 2 := by
  unfold fuel allNodes
  have h : ∀ p : Name, ((names P).flatMap fun t => ([⟨.fn, some p, t⟩, ⟨.gvar, some p, t⟩, ⟨.mfn, some p, t⟩,
      ⟨.undef, some p, t⟩] : List Node)).length = (names P).length * 4 :=
    fun p => length_flatMap_const (k := 4) (fun _ => rfl) _
  rw [List.length_cons, length_flatMap_const h]

/-- memento functions and in-package plain functions are descended into -/
def expands (P : Prog) (n : Name) : Bool :=
  match lookup P n with
  | some (.memento _ _ _) => true
  | some (.plain true _ _) => true
  | _ => false

def isPlainPkg (P : Prog) (n : Name) : Bool :=
  match lookup P n with
  | some (.plain true _ _) => true
  | _ => false

/-- what a name that gets a rule of kind `k` is bound to -/
def BoundAs (P : Prog) (r : Name) : Kind → Prop
  | .undef => lookup P r = none
  | .mfn => ∃ e t rs, lookup P r = some (.memento e t rs)
  | .fn => ∃ t rs, lookup P r = some (.plain true t rs)
  | .gvar => ∃ v, lookup P r = some (.var (some v))

theorem mkNode_cases {P : Prog} {p r : Name} {x : Node} (h : mkNode P p r = some x) :
    x.target = r ∧ x.parent = some p ∧ BoundAs P r x.kind := by
  revert h
  fun_cases mkNode P p r with
  | case1 hl => intro h; cases h; exact ⟨rfl, rfl, hl⟩
  | case2 e t rs hl => intro h; cases h; exact ⟨rfl, rfl, e, t, rs, hl⟩
  | case3 t rs hl => intro h; cases h; exact ⟨rfl, rfl, t, rs, hl⟩
  | case4 b t rs hl hb => intro h; cases h
  | case5 v hl => intro h; cases h; exact ⟨rfl, rfl, v, hl⟩
  | case6 hl => intro h; cases h

theorem mkNode_eq_none {P : Prog} {p r : Name} (h : mkNode P p r = none) :
    (∃ t rs, lookup P r = some (.plain false t rs)) ∨ lookup P r = some (.var none) := by
  revert h
  fun_cases mkNode P p r with
  | case1 hl => intro h; cases h
  | case2 e t rs hl => intro h; cases h
  | case3 t rs hl => intro h; cases h
  | case4 b t rs hl hb => exact fun _ => Or.inl ⟨t, rs, Bool.eq_false_iff.mpr hb ▸ hl⟩
  | case5 v hl => intro h; cases h
  | case6 hl => exact fun _ => Or.inr hl

theorem mkNode_congr {P P' : Prog} {r : Name} (h : lookup P' r = lookup P r) (p : Name) :
    mkNode P' p r = mkNode P p r := by
  unfold mkNode; rw [h]

theorem mkNode_of_boundAs {P : Prog} {r : Name} {k : Kind} (h : BoundAs P r k) (p : Name) :
    mkNode P p r = some ⟨k, some p, r⟩ := by
  unfold mkNode
  cases k with
  | undef => rw [show lookup P r = none from h]
  | mfn =>
    obtain ⟨e, t, rs, hl⟩ := h
    rw [hl]
  | fn =>
    obtain ⟨t, rs, hl⟩ := h
    rw [hl]
    rfl
  | gvar =>
    obtain ⟨v, hl⟩ := h
    rw [hl]

theorem isMemento_iff {P : Prog} {r : Name} : isMemento P r = true ↔ BoundAs P r .mfn := by
  fun_cases isMemento P r with
  | case1 e t rs hl => exact iff_of_true rfl ⟨e, t, rs, hl⟩
  | case2 hne => exact iff_of_false Bool.false_ne_true fun ⟨e, t, rs, hl⟩ => hne e t rs hl

theorem isPlainPkg_iff {P : Prog} {r : Name} : isPlainPkg P r = true ↔ BoundAs P r .fn := by
  fun_cases isPlainPkg P r with
  | case1 t rs hl => exact iff_of_true rfl ⟨t, rs, hl⟩
  | case2 hne => exact iff_of_false Bool.false_ne_true fun ⟨t, rs, hl⟩ => hne t rs hl

theorem expands_iff {P : Prog} {r : Name} : expands P r = true ↔ BoundAs P r .mfn ∨ BoundAs P r .fn := by
  fun_cases expands P r with
  | case1 e t rs hl => exact iff_of_true rfl (Or.inl ⟨e, t, rs, hl⟩)
  | case2 t rs hl => exact iff_of_true rfl (Or.inr ⟨t, rs, hl⟩)
  | case3 hm hp =>
    exact iff_of_false Bool.false_ne_true fun h => h.elim (fun ⟨e, t, rs, hl⟩ => hm e t rs hl) fun ⟨t, rs, hl⟩ => hp t rs hl

theorem mkNode_kind_fn {P : Prog} {p r : Name} {x : Node} (h : mkNode P p r = some x)
    (hk : x.kind = .mfn ∨ x.kind = .fn) : expands P r = true := by
  have hc := (mkNode_cases h).2.2
  rcases hk with hk | hk
  · exact expands_iff.mpr (Or.inl (hk ▸ hc))
  · exact expands_iff.mpr (Or.inr (hk ▸ hc))

theorem mkNode_mfn_of {P : Prog} {p r : Name} {x : Node} (h : mkNode P p r = some x) (hk : x.kind = .mfn) :
    isMemento P r = true :=
  isMemento_iff.mpr (hk ▸ (mkNode_cases h).2.2)

theorem mkNode_fn_of {P : Prog} {p r : Name} {x : Node} (h : mkNode P p r = some x) (hk : x.kind = .fn) :
    isPlainPkg P r = true :=
  isPlainPkg_iff.mpr (hk ▸ (mkNode_cases h).2.2)

theorem mkNode_mfn_iff {P : Prog} {p r : Name} :
    mkNode P p r = some ⟨.mfn, some p, r⟩ ↔ isMemento P r = true :=
  ⟨fun h => mkNode_mfn_of h rfl, fun h => mkNode_of_boundAs (isMemento_iff.mp h) p⟩

theorem mkNode_of_expands {P : Prog} {p r : Name} (h : expands P r = true) :
    ∃ x, mkNode P p r = some x ∧ (x.kind = .mfn ∨ x.kind = .fn) ∧ x.target = r := by
  rcases expands_iff.mp h with hb | hb
  · exact ⟨_, mkNode_of_boundAs hb p, Or.inl rfl, rfl⟩
  · exact ⟨_, mkNode_of_boundAs hb p, Or.inr rfl, rfl⟩

theorem mkNode_of_plainPkg {P : Prog} {p r : Name} (h : isPlainPkg P r = true) :
    mkNode P p r = some ⟨.fn, some p, r⟩ :=
  mkNode_of_boundAs (isPlainPkg_iff.mp h) p

theorem mem_succ {P : Prog} {ord : List Name → List Name} (hord : OrdOK ord) {x y : Node} :
    y ∈ succ P ord x ↔ (x.kind = .mfn ∨ x.kind = .fn) ∧
      ∃ d, lookup P x.target = some d ∧ ∃ r ∈ d.refs, mkNode P x.target r = some y := by
  unfold succ
  cases hk : x.kind with
  | undef | gvar => simp only [List.not_mem_nil, reduceCtorEq, or_self, false_and]
  | mfn | fn =>
    simp only [reduceCtorEq, or_false, or_true, true_and]
    cases hl : lookup P x.target with
    | none => simp only [List.not_mem_nil, reduceCtorEq, false_and, exists_false]
    | some d => simp only [List.mem_filterMap, (hord _).mem_iff, Option.some.injEq, exists_eq_left']

theorem succ_mem_allNodes {P : Prog} {ord : List Name → List Name} (hord : OrdOK ord) (f : Name) {x y : Node}
    (h : y ∈ succ P ord x) : y ∈ allNodes P f := by
  obtain ⟨_, d, hd, r, hr, hm⟩ := (mem_succ hord).mp h
  obtain ⟨ht, hp, _⟩ := mkNode_cases hm
  unfold allNodes
  refine List.mem_cons_of_mem _ (List.mem_flatMap.mpr ⟨x.target, lookup_mem_names hd, ?_⟩)
  refine List.mem_flatMap.mpr ⟨r, refs_mem_names hd hr, ?_⟩
  obtain ⟨k, p, t⟩ := y
  simp only at hp ht
  subst hp; subst ht
  cases k <;> simp only [List.mem_cons, true_or, or_true]

theorem mem_rules_iff {P : Prog} {ord : List Name → List Name} (hord : OrdOK ord) {f : Name} {x : Node} :
    x ∈ rules P ord f ↔ Reachable (succ P ord) [rootNode f] x :=
  mem_closure_iff (U := allNodes P f) (fun _ _ hb => succ_mem_allNodes hord f hb)
    (fun _ ha => List.mem_singleton.mp ha ▸ List.mem_cons_self) (Nat.le_succ _)

theorem rules_nodup (P : Prog) (ord : List Name → List Name) (f : Name) : (rules P ord f).Nodup :=
  closure_nodup List.nodup_nil

/-- `g` occurs among the names in the body of `p` -/
def RefersTo (P : Prog) (p g : Name) : Prop := ∃ d, lookup P p = some d ∧ g ∈ d.refs

/-- `g` is reached from `f` by a chain of references whose intermediate definitions are memento
    functions or in-package plain functions -/
inductive ReachN (P : Prog) (f : Name) : Name → Prop
  | direct {g} : RefersTo P f g → ReachN P f g
  | step {h g} : ReachN P f h → expands P h = true → RefersTo P h g → ReachN P f g

/-- `f` itself and every memento / in-package plain function reached -/
def FnTarget (P : Prog) (f g : Name) : Prop := g = f ∨ (ReachN P f g ∧ expands P g = true)

theorem reachN_of_fnTarget {P : Prog} {f p g : Name} (hp : FnTarget P f p) (href : RefersTo P p g) : ReachN P f g := by
  rcases hp with rfl | ⟨hp, he⟩
  · exact ReachN.direct href
  · exact ReachN.step hp he href

theorem reachN_last {P : Prog} {f g : Name} (h : ReachN P f g) : ∃ p, FnTarget P f p ∧ RefersTo P p g := by
  cases h with
  | direct href => exact ⟨f, Or.inl rfl, href⟩
  | @step p _ hp he href => exact ⟨p, Or.inr ⟨hp, he⟩, href⟩

theorem fnTarget_step {P : Prog} {f p r : Name} (hp : FnTarget P f p) (href : RefersTo P p r)
    (he : expands P r = true) : FnTarget P f r :=
  Or.inr ⟨reachN_of_fnTarget hp href, he⟩

/-- names of the closure: its functions and everything they name -/
def InClos (P : Prog) (f n : Name) : Prop := FnTarget P f n ∨ ∃ p, FnTarget P f p ∧ RefersTo P p n

theorem inClos_cases {P : Prog} {f n : Name} (h : InClos P f n) : n = f ∨ ∃ p, FnTarget P f p ∧ RefersTo P p n := by
  rcases h with (rfl | ⟨hr, _⟩) | h
  · exact Or.inl rfl
  · exact Or.inr (reachN_last hr)
  · exact Or.inr h

def NodeOK (P : Prog) (f : Name) (x : Node) : Prop :=
  x = rootNode f ∨ ∃ p, FnTarget P f p ∧ RefersTo P p x.target ∧ mkNode P p x.target = some x

theorem NodeOK.target_fnTarget {P : Prog} {f : Name} {x : Node} (h : NodeOK P f x) (hk : x.kind = .mfn ∨ x.kind = .fn) :
    FnTarget P f x.target := by
  rcases h with rfl | ⟨p, hp, href, hmk⟩
  · exact Or.inl rfl
  · exact fnTarget_step hp href (mkNode_kind_fn hmk hk)

theorem nodeOK_of_reachable {P : Prog} {ord : List Name → List Name} (hord : OrdOK ord) {f : Name} {x : Node}
    (h : Reachable (succ P ord) [rootNode f] x) : NodeOK P f x := by
  induction h with
  | root hx => exact Or.inl (List.mem_singleton.mp hx)
  | @step x y _ hy ih =>
    obtain ⟨hk, d, hd, r, hr, hm⟩ := (mem_succ hord).mp hy
    obtain ⟨ht, _⟩ := mkNode_cases hm
    exact Or.inr ⟨x.target, ih.target_fnTarget hk, ⟨d, hd, ht ▸ hr⟩, ht ▸ hm⟩

theorem exists_rule_of_fnTarget {P : Prog} {ord : List Name → List Name} (hord : OrdOK ord) {f p : Name} (h : FnTarget P f p) :
    ∃ x, Reachable (succ P ord) [rootNode f] x ∧ x.target = p ∧ (x.kind = .mfn ∨ x.kind = .fn) := by
  rcases h with rfl | ⟨h, he⟩
  · exact ⟨rootNode p, Reachable.root (List.mem_singleton.mpr rfl), rfl, Or.inl rfl⟩
  · have step : ∀ {xh : Node} {g : Name}, Reachable (succ P ord) [rootNode f] xh → (xh.kind = .mfn ∨ xh.kind = .fn) →
        RefersTo P xh.target g → expands P g = true →
        ∃ x, Reachable (succ P ord) [rootNode f] x ∧ x.target = g ∧ (x.kind = .mfn ∨ x.kind = .fn) := by
      intro xh g hxh hkh ⟨d, hd, hr⟩ he
      obtain ⟨x, hx, hk, ht⟩ := mkNode_of_expands (P := P) (p := xh.target) he
      exact ⟨x, Reachable.step hxh ((mem_succ hord).mpr ⟨hkh, d, hd, g, hr, hx⟩), ht, hk⟩
    induction h with
    | direct href => exact step (Reachable.root (List.mem_singleton.mpr rfl)) (Or.inl rfl) href he
    | step _ heh href ih =>
      obtain ⟨xh, hxh, hth, hkh⟩ := ih heh
      exact step hxh hkh (hth ▸ href) he

theorem reachable_of_nodeOK {P : Prog} {ord : List Name → List Name} (hord : OrdOK ord) {f : Name} {x : Node}
    (h : NodeOK P f x) : Reachable (succ P ord) [rootNode f] x := by
  rcases h with rfl | ⟨p, hp, ⟨d, hd, hr⟩, hmk⟩
  · exact Reachable.root (List.mem_singleton.mpr rfl)
  · obtain ⟨xp, hxp, htp, hkp⟩ := exists_rule_of_fnTarget hord hp
    exact Reachable.step hxp ((mem_succ hord).mpr ⟨hkp, d, htp ▸ hd, x.target, hr, htp ▸ hmk⟩)

theorem mem_rules_nodeOK {P : Prog} {ord : List Name → List Name} (hord : OrdOK ord) {f : Name} {x : Node} :
    x ∈ rules P ord f ↔ NodeOK P f x :=
  (mem_rules_iff hord).trans ⟨nodeOK_of_reachable hord, reachable_of_nodeOK hord⟩

theorem target_inClos {P : Prog} {ord : List Name → List Name} (hord : OrdOK ord) {f : Name} {x : Node}
    (hx : x ∈ rules P ord f) : InClos P f x.target := by
  rcases (mem_rules_nodeOK hord).mp hx with rfl | ⟨p, hp, href, _⟩
  · exact Or.inl (Or.inl rfl)
  · exact Or.inr ⟨p, hp, href⟩

theorem mem_dedup {l : List Name} {a : Name} : a ∈ dedup l ↔ a ∈ l := by
  fun_induction dedup l with
  | case1 => rfl
  | case2 x xs hx ih =>
    rw [ih, List.mem_cons]
    exact ⟨Or.inr, fun h => h.elim (fun e => e ▸ hx) id⟩
  | case3 x xs hx ih => rw [List.mem_cons, List.mem_cons, ih]

theorem dedup_nodup (l : List Name) : (dedup l).Nodup := by
  fun_induction dedup l with
  | case1 => exact List.nodup_nil
  | case2 x xs hx ih => exact ih
  | case3 x xs hx ih => exact List.nodup_cons.mpr ⟨fun h => hx (mem_dedup.mp h), ih⟩

theorem mem_transDeps {P : Prog} {ord : List Name → List Name} (hord : OrdOK ord) {f g : Name} :
    g ∈ transDeps P ord f ↔ g ≠ f ∧ isMemento P g = true ∧ ReachN P f g := by
  unfold transDeps
  simp only [mem_dedup, List.mem_map, List.mem_filter, mem_rules_nodeOK hord, Bool.and_eq_true, beq_iff_eq, bne_iff_ne]
  constructor
  · rintro ⟨x, ⟨hok, hk, hne⟩, rfl⟩
    refine ⟨hne, ?_⟩
    rcases hok with rfl | ⟨p, hp, href, hmk⟩
    · exact absurd rfl hne
    · exact ⟨mkNode_mfn_of hmk hk, reachN_of_fnTarget hp href⟩
  · rintro ⟨hne, hm, hr⟩
    obtain ⟨p, hp, href⟩ := reachN_last hr
    exact ⟨⟨.mfn, some p, g⟩, ⟨Or.inr ⟨p, hp, href, mkNode_mfn_iff.mpr hm⟩, rfl, hne⟩, rfl⟩

theorem mem_directDeps {P : Prog} {ord : List Name → List Name} (hord : OrdOK ord) {f g : Name} :
    g ∈ directDeps P ord f ↔ g ≠ f ∧ isMemento P g = true ∧ RefersTo P f g := by
  unfold directDeps
  simp only [mem_dedup, List.mem_map, List.mem_filter, mem_rules_nodeOK hord, Bool.and_eq_true, beq_iff_eq, bne_iff_ne]
  constructor
  · rintro ⟨x, ⟨hok, ⟨hk, hne⟩, hpar⟩, rfl⟩
    refine ⟨hne, ?_⟩
    rcases hok with rfl | ⟨p, _, href, hmk⟩
    · exact absurd rfl hne
    · have := (mkNode_cases hmk).2.1
      rw [hpar] at this
      cases this
      exact ⟨mkNode_mfn_of hmk hk, href⟩
  · rintro ⟨hne, hm, href⟩
    exact ⟨⟨.mfn, some f, g⟩, ⟨Or.inr ⟨f, Or.inl rfl, href, mkNode_mfn_iff.mpr hm⟩, ⟨rfl, hne⟩, rfl⟩, rfl⟩

theorem callAllowed_iff {P : Prog} {ord : List Name → List Name} {caller callee : Name} {fnArgs : List Name} :
    callAllowed P ord caller callee fnArgs = true ↔
      (∃ e tok refs, lookup P caller = some (.memento (some e) tok refs)) ∨ callee = caller ∨
        callee ∈ transDeps P ord caller ∨ callee ∈ fnArgs := by
  fun_cases callAllowed P ord caller callee fnArgs with
  | case1 e tok refs hl => exact iff_of_true rfl (Or.inl ⟨e, tok, refs, hl⟩)
  | case2 hne =>
    simp only [Bool.or_eq_true, beq_iff_eq, List.contains_eq_mem, decide_eq_true_eq, or_assoc, eq_comm (a := caller)]
    exact ⟨Or.inr, fun h => h.resolve_left fun ⟨e, tok, refs, hl⟩ => hne e tok refs hl⟩

/-- `h` is reached from `g` by a chain of references passing through in-package plain functions only -/
inductive ReachPlain (P : Prog) (g : Name) : Name → Prop
  | direct {h} : RefersTo P g h → ReachPlain P g h
  | step {p h} : ReachPlain P g p → isPlainPkg P p = true → RefersTo P p h → ReachPlain P g h

theorem mem_succPlain {P : Prog} {ord : List Name → List Name} {x y : Node} :
    y ∈ succPlain P ord x ↔ x.kind = .fn ∧ y ∈ succ P ord x := by
  unfold succPlain
  cases hk : x.kind <;> simp

theorem reachPlain_of_reachable {P : Prog} {ord : List Name → List Name} (hord : OrdOK ord) {g : Name} {x : Node}
    (h : Reachable (succPlain P ord) (succ P ord (rootNode g)) x) :
    ReachPlain P g x.target ∧ ∃ p, mkNode P p x.target = some x := by
  induction h with
  | @root x hx =>
    obtain ⟨_, d, hd, r, hr, hm⟩ := (mem_succ hord).mp hx
    obtain ⟨rfl, _⟩ := mkNode_cases hm
    exact ⟨.direct ⟨d, hd, hr⟩, _, hm⟩
  | @step x y _ hy ih =>
    obtain ⟨hk, hy⟩ := mem_succPlain.mp hy
    obtain ⟨_, d, hd, r, hr, hm⟩ := (mem_succ hord).mp hy
    obtain ⟨rfl, _⟩ := mkNode_cases hm
    obtain ⟨hx, p, hmk⟩ := ih
    exact ⟨.step hx (mkNode_fn_of hmk hk) ⟨d, hd, hr⟩, _, hm⟩

/-- the rule made for `h` where the last function of a plain chain names it is in the plain closure -/
theorem reachable_of_reachPlain {P : Prog} {ord : List Name → List Name} (hord : OrdOK ord) {g h : Name}
    (hr : ReachPlain P g h) :
    ∃ p, ∀ x, mkNode P p h = some x → Reachable (succPlain P ord) (succ P ord (rootNode g)) x := by
  induction hr with
  | @direct h href =>
    obtain ⟨d, hd, hr⟩ := href
    exact ⟨g, fun x hx => .root ((mem_succ hord).mpr ⟨Or.inl rfl, d, hd, h, hr, hx⟩)⟩
  | @step q h _ heq href ih =>
    obtain ⟨p, hp⟩ := ih
    obtain ⟨d, hd, hr⟩ := href
    refine ⟨q, fun x hx => .step (hp _ (mkNode_of_plainPkg heq)) ?_⟩
    exact mem_succPlain.mpr ⟨rfl, (mem_succ hord).mpr ⟨Or.inr rfl, d, hd, h, hr, hx⟩⟩

theorem mem_plainClosure {P : Prog} {ord : List Name → List Name} (hord : OrdOK ord) {g : Name} {x : Node} :
    x ∈ closure (succPlain P ord) (fuel P g) (succ P ord (rootNode g)) [] ↔
      Reachable (succPlain P ord) (succ P ord (rootNode g)) x :=
  mem_closure_iff (U := allNodes P g) (fun _ _ hb => succ_mem_allNodes hord g (mem_succPlain.mp hb).2)
    (fun _ ha => succ_mem_allNodes hord g ha) (Nat.le_succ _)

theorem mem_edgesFrom {P : Prog} {ord : List Name → List Name} (hord : OrdOK ord) {g h : Name} :
    h ∈ edgesFrom P ord g ↔ h ≠ g ∧ isMemento P h = true ∧ ReachPlain P g h := by
  unfold edgesFrom
  simp only [mem_dedup, List.mem_map, List.mem_filter, mem_plainClosure hord, Bool.and_eq_true, beq_iff_eq, bne_iff_ne]
  constructor
  · rintro ⟨x, ⟨hx, hk, hne⟩, rfl⟩
    obtain ⟨hr, p, hmk⟩ := reachPlain_of_reachable hord hx
    exact ⟨hne, mkNode_mfn_of hmk hk, hr⟩
  · rintro ⟨hne, hm, hr⟩
    obtain ⟨p, hp⟩ := reachable_of_reachPlain hord hr
    exact ⟨⟨.mfn, some p, h⟩, ⟨hp _ (mkNode_mfn_iff.mpr hm), rfl, hne⟩, rfl⟩

end Memento.Version
