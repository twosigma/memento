import MementoModel.Model.Cache

/-! The invariant of the `MemoryCache` model (definition only; lemmas in `CacheLemmas.lean`), apart so that the storage
    invariants can name it without waiting for the cache's lemmas. -/
namespace Memento.Cache

/-- `sizes` and `lru_nodup` follow from the other fields (`Inv.of_sorted`); the property theorems read them off. -/
structure Inv (s : State) : Prop where
  usage_eq   : s.usage = total s.cache
  keys_nodup : (keys s.cache).Nodup
  lru_nodup  : s.lru.Nodup
  lru_mem    : ∀ k, k ∈ s.lru ↔ k ∈ keys s.cache
  sizes      : ∀ p ∈ s.cache, p.2.size ≤ s.budget
  bounded    : s.usage ≤ s.budget
  sorted     : s.lru.Pairwise (fun a b => s.stamp a < s.stamp b)
  stamp_lt   : ∀ k, s.stamp k < s.clock

end Memento.Cache
