import MementoModel.Model.Conc
import MementoModel.Lemmas.CacheLemmas

/-! The invariant of the concurrent-callers transition system is local: a mutex is owned by exactly the thread inside its
critical section for that key, and each key by itself satisfies `KeyOK`, a relation between the key's fields and the
program counter of the thread holding its mutex. A step of a thread touches that thread and the fields of its key only;
on one key the protocol is six transitions. -/
namespace Memento.Conc

/-- One field per fact that the theorems of C09 read off; `inv_iff` is the local form. `nost`: a key that was executed and
    is not in the store yet has its mutex held, by the thread at `executed`. -/
structure Inv (memo0 : K → Bool) (s : St) : Prop where
  holds : ∀ t, inCrit (s.pc t) = true → s.holder (s.key t) = some t
  held  : ∀ k t, s.holder k = some t → inCrit (s.pc t) = true ∧ s.key t = k
  mono  : ∀ k, memo0 k = true → s.memo k = true
  exec_init : ∀ k, memo0 k = true → s.execs k = 0
  exec_le : ∀ k, s.execs k ≤ 1
  exec_st : ∀ k, memo0 k = false → s.memo k = true → s.execs k = 1
  comp  : ∀ t, s.pc t = .executed → s.memo (s.key t) = false ∧ s.execs (s.key t) = 1
  missd : ∀ t, s.pc t = .missed → s.memo (s.key t) = false ∧ s.execs (s.key t) = 0
  stord : ∀ t, s.pc t = .stored → s.memo (s.key t) = true
  nost  : ∀ k, s.memo k = false → s.execs k = 1 → (s.holder k).isSome = true ∧ ∀ t, s.holder k = some t → s.pc t = .executed
  compl : ∀ k, s.completed k = true → s.memo k = true
  cache : Cache.Inv s.cache

theorem inv_init (memo0 : K → Bool) (b : Nat) : Inv memo0 (init memo0 b) := by
  constructor <;> simp [init, inCrit, Cache.inv_init]

theorem upd_same {α} (f : Nat → α) (i : Nat) (v : α) : upd f i v i = v := if_pos rfl

theorem upd_ne {α} (f : Nat → α) {i j : Nat} (v : α) (h : j ≠ i) : upd f i v j = f j := if_neg h

theorem map_upd_ne {α} (f : Nat → α) {t : Nat} (v : α) {o : Option Nat} (h : o ≠ some t) :
    o.map (upd f t v) = o.map f := by
  cases o with
  | none => rfl
  | some u => exact congrArg some (upd_ne f v fun e => h (e ▸ rfl))

/-- The invariant of one key: the store bit at the start and now, the execution count, the completion flag, and the
    key's *phase*: the program counter of the thread holding its mutex (`none`: the mutex is free). -/
structure KeyOK (m0 m : Bool) (x : Nat) (c : Bool) (ph : Option Pc) : Prop where
  warm : m0 = true → m = true ∧ x = 0
  le : x ≤ 1
  cold : m0 = false → m = true → x = 1
  compl : c = true → m = true
  executed : ph = some .executed ↔ m = false ∧ x = 1
  missed : ph = some .missed → m = false ∧ x = 0
  stored : ph = some .stored → m = true

namespace KeyOK
variable {m0 m c : Bool} {x : Nat} {ph : Option Pc}

theorem complete (h : KeyOK m0 m x c ph) (hm : m = true) : KeyOK m0 m x true ph :=
  { h with compl := fun _ => hm }

theorem acq (h : KeyOK m0 m x c none) : KeyOK m0 m x c (some .locked) :=
  { h with executed := ⟨nofun, fun hx => nomatch h.executed.mpr hx⟩, missed := nofun, stored := nofun }

theorem lookup (h : KeyOK m0 m x c (some .locked)) : KeyOK m0 m x c (some (if m then .stored else .missed)) := by
  -- nobody has executed: the phase is not `executed`, so the store bit is set or the count is 0
  have hne : ¬ (m = false ∧ x = 1) := fun hx => nomatch h.executed.mpr hx
  cases m with
  | true => exact { h with executed := ⟨nofun, fun hx => nomatch hx.1⟩, missed := nofun, stored := fun _ => rfl }
  | false =>
    have hx : x = 0 := (Nat.le_one_iff_eq_zero_or_eq_one.mp h.le).resolve_right fun e => hne ⟨rfl, e⟩
    exact { h with executed := ⟨nofun, fun hx' => absurd hx' hne⟩, missed := fun _ => ⟨rfl, hx⟩, stored := nofun }

theorem exec (h : KeyOK m0 m x c (some .missed)) : KeyOK m0 m (x + 1) c (some .executed) := by
  obtain ⟨rfl, rfl⟩ := h.missed rfl
  -- the key is not in the store, so it was not there at the start and no call of it has completed
  exact { warm := fun h0 => (nomatch (h.warm h0).1), le := Nat.le_refl 1, cold := nofun, compl := h.compl,
          executed := ⟨fun _ => ⟨rfl, rfl⟩, fun _ => rfl⟩, missed := nofun, stored := nofun }

theorem memoize (h : KeyOK m0 m x c (some .executed)) : KeyOK m0 true x c (some .stored) := by
  obtain ⟨rfl, rfl⟩ := h.executed.mp rfl
  exact { warm := fun h0 => (nomatch (h.warm h0).1), le := Nat.le_refl 1, cold := fun _ _ => rfl, compl := fun _ => rfl,
          executed := ⟨nofun, fun hx => nomatch hx.1⟩, missed := nofun, stored := fun _ => rfl }

theorem rel (h : KeyOK m0 m x c (some .stored)) : KeyOK m0 m x true none :=
  have hm := h.stored rfl
  { h with compl := fun _ => hm, executed := ⟨nofun, fun hx => nomatch hm.symm.trans hx.1⟩, missed := nofun, stored := nofun }

end KeyOK

theorem inv_iff (memo0 : K → Bool) (s : St) : Inv memo0 s ↔
    (∀ k t, s.holder k = some t ↔ inCrit (s.pc t) = true ∧ s.key t = k) ∧
    (∀ k, KeyOK (memo0 k) (s.memo k) (s.execs k) (s.completed k) ((s.holder k).map s.pc)) ∧
    Cache.Inv s.cache := by
  constructor
  · intro h
    refine ⟨fun k t => ⟨h.held k t, fun ⟨hc, hk⟩ => hk ▸ h.holds t hc⟩, fun k => ?_, h.cache⟩
    have hph : ∀ p, (s.holder k).map s.pc = some p → ∃ t, s.pc t = p ∧ s.key t = k := by
      intro p hp
      cases hh : s.holder k with
      | none => simp [hh] at hp
      | some t => exact ⟨t, by simpa [hh] using hp, (h.held k t hh).2⟩
    refine ⟨fun h0 => ⟨h.mono k h0, h.exec_init k h0⟩, h.exec_le k, h.exec_st k, h.compl k, ⟨?_, ?_⟩, ?_, ?_⟩
    · intro hp; obtain ⟨t, ht, rfl⟩ := hph _ hp; exact h.comp t ht
    · rintro ⟨hm, hx⟩
      obtain ⟨hs, ht⟩ := h.nost k hm hx
      cases hh : s.holder k with
      | none => simp [hh] at hs
      | some t => simp [ht t hh]
    · intro hp; obtain ⟨t, ht, rfl⟩ := hph _ hp; exact h.missd t ht
    · intro hp; obtain ⟨t, ht, rfl⟩ := hph _ hp; exact h.stord t ht
  · rintro ⟨ho, hk, hc⟩
    have hph : ∀ t, inCrit (s.pc t) = true → (s.holder (s.key t)).map s.pc = some (s.pc t) := by
      intro t ht; rw [(ho _ t).mpr ⟨ht, rfl⟩]; rfl
    refine ⟨fun t ht => (ho _ t).mpr ⟨ht, rfl⟩, fun k t => (ho k t).mp, fun k h0 => ((hk k).warm h0).1,
      fun k h0 => ((hk k).warm h0).2, fun k => (hk k).le, fun k => (hk k).cold, ?_, ?_, ?_, ?_, fun k => (hk k).compl, hc⟩
    · intro t ht; exact (hk _).executed.mp (by rw [hph t (by rw [ht]; rfl), ht])
    · intro t ht; exact (hk _).missed (by rw [hph t (by rw [ht]; rfl), ht])
    · intro t ht; exact (hk _).stored (by rw [hph t (by rw [ht]; rfl), ht])
    · intro k hm hx
      have := (hk k).executed.mpr ⟨hm, hx⟩
      cases hh : s.holder k with
      | none => simp [hh] at this
      | some t => simpa [hh] using this

/-- Every key other than `t`'s keeps its fields, its holder and, since that holder is not `t` (`hstay`), its phase. -/
theorem inv_of_local {memo0 : K → Bool} {s s' : St} (t : Tid) (h : Inv memo0 s)
    (hthr : ∀ u, u ≠ t → s'.pc u = s.pc u ∧ s'.key u = s.key u)
    (hstay : inCrit (s.pc t) = true → s'.key t = s.key t)
    (hkeys : ∀ j, j ≠ s'.key t → s'.memo j = s.memo j ∧ s'.holder j = s.holder j ∧ s'.execs j = s.execs j ∧
      s'.completed j = s.completed j)
    (hcache : s'.cache = s.cache)
    (hown : s'.holder (s'.key t) = some t ↔ inCrit (s'.pc t) = true)
    (hoth : ∀ u, u ≠ t → (s'.holder (s'.key t) = some u ↔ s.holder (s'.key t) = some u))
    (hk : KeyOK (memo0 (s'.key t)) (s'.memo (s'.key t)) (s'.execs (s'.key t)) (s'.completed (s'.key t))
      ((s'.holder (s'.key t)).map s'.pc)) :
    Inv memo0 s' := by
  rw [inv_iff] at h ⊢
  obtain ⟨ho, hks, hc⟩ := h
  have hnot : ∀ j, j ≠ s'.key t → s.holder j ≠ some t := fun j hj e =>
    have ⟨hcr, hkt⟩ := (ho j t).mp e
    hj (hkt ▸ (hstay hcr).symm)
  refine ⟨fun j u => ?_, fun j => ?_, hcache ▸ hc⟩
  · by_cases hu : u = t
    · subst hu
      by_cases hj : j = s'.key u
      · subst hj; simpa using hown
      · rw [(hkeys j hj).2.1]
        exact ⟨fun e => absurd e (hnot j hj), fun e => absurd e.2.symm hj⟩
    · rw [(hthr u hu).1, (hthr u hu).2, ← ho]
      by_cases hj : j = s'.key t
      · subst hj; exact hoth u hu
      · rw [(hkeys j hj).2.1]
  · by_cases hj : j = s'.key t
    · subst hj; exact hk
    · obtain ⟨e1, e2, e3, e4⟩ := hkeys j hj
      rw [e1, e2, e3, e4]
      have : (s.holder j).map s'.pc = (s.holder j).map s.pc := by
        cases hh : s.holder j with
        | none => rfl
        | some u => exact congrArg some (hthr u fun e => hnot j hj (e ▸ hh)).1
      rw [this]; exact hks j

theorem Inv.free {memo0 : K → Bool} {s : St} (h : Inv memo0 s) {t : Tid} {p0 : Pc} (hp : s.pc t = p0)
    (hc : inCrit p0 = false) (k : K) (p : Pc) :
    s.holder k ≠ some t ∧ (s.holder k).map (upd s.pc t p) = (s.holder k).map s.pc :=
  have hn : s.holder k ≠ some t := fun e => by rw [← hp, (h.held k t e).1] at hc; cases hc
  ⟨hn, map_upd_ne _ _ hn⟩

theorem Inv.crit {memo0 : K → Bool} {s : St} (h : Inv memo0 s) {t : Tid} {p0 : Pc} (hp : s.pc t = p0)
    (hc : inCrit p0 = true) (p : Pc) :
    s.holder (s.key t) = some t ∧ (s.holder (s.key t)).map (upd s.pc t p) = some p ∧
      KeyOK (memo0 (s.key t)) (s.memo (s.key t)) (s.execs (s.key t)) (s.completed (s.key t)) (some p0) := by
  have hh := h.holds t (hp ▸ hc)
  have hk := ((inv_iff memo0 s).mp h).2.1 (s.key t)
  rw [hh] at hk ⊢
  exact ⟨rfl, congrArg some (upd_same ..), hp ▸ hk⟩

theorem step_inv (memo0 : K → Bool) (s s' : St) (e : Ev) (h : Inv memo0 s) (hs : step s e = some s') :
    Inv memo0 s' := by
  have hk := ((inv_iff memo0 s).mp h).2.1
  cases e <;> simp only [step, Option.ite_none_right_eq_some, Option.some.injEq] at hs
  case start t k =>
    obtain ⟨hp, rfl⟩ := hs
    obtain ⟨hn, hph⟩ := h.free hp rfl k .started
    refine inv_of_local t h (hthr := fun u hu => ⟨upd_ne _ _ hu, upd_ne _ _ hu⟩) (hstay := by simp [hp, inCrit])
      (hkeys := fun _ _ => ⟨rfl, rfl, rfl, rfl⟩) (hcache := rfl) (hoth := fun _ _ => .rfl) (hown := ?own) (hk := ?key)
    case own => simp only [upd_same]; exact iff_of_false hn Bool.false_ne_true
    case key => simp only [upd_same]; rw [hph]; exact hk k
  case pre t hit =>
    obtain ⟨⟨hp, rfl⟩, rfl⟩ := hs
    obtain ⟨hn, hph⟩ := h.free hp rfl (s.key t) (if s.memo (s.key t) then .idle else .wantLock)
    refine inv_of_local t h (hthr := fun u hu => ⟨upd_ne _ _ hu, rfl⟩) (hstay := fun _ => rfl)
      (hkeys := fun j hj => ⟨rfl, rfl, rfl, ?completed⟩) (hcache := rfl) (hoth := fun _ _ => .rfl) (hown := ?own)
      (hk := ?key)
    case completed =>
      simp only; split
      · exact upd_ne _ _ hj
      · rfl
    case own => simp only [upd_same]; cases s.memo (s.key t) <;> exact iff_of_false hn Bool.false_ne_true
    case key =>
      simp only; rw [hph]
      cases hm : s.memo (s.key t)
      · simpa [hm] using hk (s.key t)
      · simpa [hm, upd_same] using (hk (s.key t)).complete hm
  case acq t =>
    obtain ⟨⟨hp, hh⟩, rfl⟩ := hs
    refine inv_of_local t h (hthr := fun u hu => ⟨upd_ne _ _ hu, rfl⟩) (hstay := fun _ => rfl)
      (hkeys := fun j hj => ⟨rfl, upd_ne _ _ hj, rfl, rfl⟩) (hcache := rfl) (hoth := fun u hu => ?oth) (hown := ?own)
      (hk := ?key)
    case oth => simp [upd_same, hh, Ne.symm hu]
    case own => dsimp only; rw [upd_same, upd_same]; exact iff_of_true rfl rfl
    case key =>
      have := hk (s.key t); rw [hh] at this
      simpa [upd_same] using this.acq
  case lookup t hit =>
    obtain ⟨⟨hp, rfl⟩, rfl⟩ := hs
    obtain ⟨hh, hph, hko⟩ := h.crit hp rfl (if s.memo (s.key t) then .stored else .missed)
    refine inv_of_local t h (hthr := fun u hu => ⟨upd_ne _ _ hu, rfl⟩) (hstay := fun _ => rfl)
      (hkeys := fun _ _ => ⟨rfl, rfl, rfl, rfl⟩) (hcache := rfl) (hoth := fun _ _ => .rfl) (hown := ?own) (hk := ?key)
    case own => simp only [upd_same]; cases s.memo (s.key t) <;> exact iff_of_true hh rfl
    case key => simp only; rw [hph]; exact hko.lookup
  case exec t =>
    obtain ⟨hp, rfl⟩ := hs
    obtain ⟨hh, hph, hko⟩ := h.crit hp rfl .executed
    refine inv_of_local t h (hthr := fun u hu => ⟨upd_ne _ _ hu, rfl⟩) (hstay := fun _ => rfl)
      (hkeys := fun j hj => ⟨rfl, rfl, upd_ne _ _ hj, rfl⟩) (hcache := rfl) (hoth := fun _ _ => .rfl) (hown := ?own)
      (hk := ?key)
    case own => simp only [upd_same]; exact iff_of_true hh rfl
    case key => simp only [upd_same]; rw [hph]; exact hko.exec
  case memoize t =>
    obtain ⟨hp, rfl⟩ := hs
    obtain ⟨hh, hph, hko⟩ := h.crit hp rfl .stored
    refine inv_of_local t h (hthr := fun u hu => ⟨upd_ne _ _ hu, rfl⟩) (hstay := fun _ => rfl)
      (hkeys := fun j hj => ⟨upd_ne _ _ hj, rfl, rfl, rfl⟩) (hcache := rfl) (hoth := fun _ _ => .rfl) (hown := ?own)
      (hk := ?key)
    case own => simp only [upd_same]; exact iff_of_true hh rfl
    case key => simp only [upd_same]; rw [hph]; exact hko.memoize
  case rel t =>
    obtain ⟨hp, rfl⟩ := hs
    obtain ⟨hh, _, hko⟩ := h.crit hp rfl .idle
    refine inv_of_local t h (hthr := fun u hu => ⟨upd_ne _ _ hu, rfl⟩) (hstay := fun _ => rfl)
      (hkeys := fun j hj => ⟨rfl, upd_ne _ _ hj, rfl, upd_ne _ _ hj⟩) (hcache := rfl) (hoth := fun u hu => ?oth)
      (hown := ?own) (hk := ?key)
    case oth => simp [upd_same, hh, Ne.symm hu]
    case own => simp only [upd_same]; exact iff_of_false nofun Bool.false_ne_true
    case key => simpa [upd_same] using hko.rel
  case cacheOp t op =>
    subst hs
    exact { h with cache := Cache.inv_step op h.cache }

theorem run_inv (memo0 : K → Bool) : ∀ (es : List Ev) (s s' : St), Inv memo0 s → run s es = some s' → Inv memo0 s' := by
  intro es s s' h hr
  fun_induction run s es with
  | case1 s => cases hr; exact h
  | case2 s e es s1 hst ih => exact ih (step_inv memo0 s s1 e h hst) hr
  | case3 s e es hst => cases hr

end Memento.Conc
