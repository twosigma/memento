import MementoModel.Model.Json

/-! `sortKV` is an insertion sort: with distinct keys its result does not depend on the order of the members.
`serC` is `ser` without the sorting; its token grammar is prefix-free, hence `serC` is injective. -/
namespace Memento.Json

section sort
variable {β γ : Type}

def KSorted (l : List (String × β)) : Prop := l.Pairwise (fun p q => p.1 < q.1)

theorem str_lt_of_not_lt_of_ne {a b : String} (h : ¬ a < b) (hne : a ≠ b) : b < a := by
  have hle : b ≤ a := String.not_lt.mp h
  apply Classical.byContradiction
  intro hn
  exact hne (String.le_antisymm (String.not_lt.mp hn) hle)

theorem sortKV_nil : sortKV ([] : List (String × β)) = [] := rfl

theorem sortKV_cons (p : String × β) (l : List (String × β)) :
    sortKV (p :: l) = insertKV p.1 p.2 (sortKV l) := rfl

theorem insertKV_cons_lt {k k' : String} (h : k < k') {v v' : β} {l : List (String × β)} :
    insertKV k v ((k', v') :: l) = (k, v) :: (k', v') :: l := if_pos h

theorem insertKV_cons_not_lt {k k' : String} (h : ¬ k < k') {v v' : β} {l : List (String × β)} :
    insertKV k v ((k', v') :: l) = (k', v') :: insertKV k v l := if_neg h

theorem insertKV_perm (k : String) (v : β) (l : List (String × β)) :
    (insertKV k v l).Perm ((k, v) :: l) := by
  fun_induction insertKV k v l with
  | case1 => exact List.Perm.refl _
  | case2 k' v' rest h => exact List.Perm.refl _
  | case3 k' v' rest h ih => exact (List.Perm.cons _ ih).trans (List.Perm.swap _ _ _)

theorem sortKV_perm (l : List (String × β)) : (sortKV l).Perm l := by
  induction l with
  | nil => exact List.Perm.refl _
  | cons p l ih =>
    rw [sortKV_cons]
    exact (insertKV_perm p.1 p.2 (sortKV l)).trans (List.Perm.cons _ ih)

theorem mem_sortKV {l : List (String × β)} {p : String × β} : p ∈ sortKV l ↔ p ∈ l :=
  (sortKV_perm l).mem_iff

theorem insertKV_map (f : β → γ) (k : String) (v : β) (l : List (String × β)) :
    insertKV k (f v) (l.map (fun p => (p.1, f p.2))) = (insertKV k v l).map (fun p => (p.1, f p.2)) := by
  fun_induction insertKV k v l with
  | case1 => rfl
  | case2 k' v' rest h => exact insertKV_cons_lt h
  | case3 k' v' rest h ih => rw [List.map_cons, List.map_cons, insertKV_cons_not_lt h, ih]

theorem sortKV_map (f : β → γ) (l : List (String × β)) :
    sortKV (l.map (fun p => (p.1, f p.2))) = (sortKV l).map (fun p => (p.1, f p.2)) := by
  induction l with
  | nil => rfl
  | cons p l ih =>
    rw [List.map_cons, sortKV_cons, sortKV_cons, ih]
    exact insertKV_map f p.1 p.2 (sortKV l)

theorem insertKV_sorted {k : String} {v : β} {l : List (String × β)} (hs : KSorted l)
    (hk : ∀ p ∈ l, p.1 ≠ k) : KSorted (insertKV k v l) := by
  fun_induction insertKV k v l with
  | case1 => exact List.pairwise_singleton _ _
  | case2 k' v' rest h =>
    refine List.pairwise_cons.mpr ⟨fun q hq => ?_, hs⟩
    rcases List.mem_cons.mp hq with rfl | hq
    · exact h
    · exact String.lt_trans h ((List.pairwise_cons.mp hs).1 q hq)
  | case3 k' v' rest h ih =>
    have hs' := List.pairwise_cons.mp hs
    have hlt : k' < k := str_lt_of_not_lt_of_ne h fun e => hk (k', v') List.mem_cons_self e.symm
    refine List.pairwise_cons.mpr ⟨fun q hq => ?_, ih hs'.2 fun p hp => hk p (List.mem_cons_of_mem _ hp)⟩
    rcases List.mem_cons.mp ((insertKV_perm k v rest).mem_iff.mp hq) with rfl | hq
    · exact hlt
    · exact hs'.1 q hq

theorem sortKV_sorted (l : List (String × β)) (hn : (l.map (·.1)).Nodup) : KSorted (sortKV l) := by
  induction l with
  | nil => exact List.Pairwise.nil
  | cons p l ih =>
    rw [List.map_cons, List.nodup_cons] at hn
    rw [sortKV_cons]
    refine insertKV_sorted (ih hn.2) ?_
    intro q hq e
    exact hn.1 (e ▸ List.mem_map_of_mem (mem_sortKV.mp hq))

theorem insertKV_of_lt {k : String} {v : β} {l : List (String × β)} (h : ∀ p ∈ l, k < p.1) :
    insertKV k v l = (k, v) :: l := by
  cases l with
  | nil => rfl
  | cons p l => exact insertKV_cons_lt (h p List.mem_cons_self)

theorem sortKV_eq_of_perm {l l' : List (String × β)} (hp : l.Perm l') (hn : (l.map (·.1)).Nodup) :
    sortKV l = sortKV l' := by
  have hn' : (l'.map (·.1)).Nodup := (hp.map _).nodup_iff.mp hn
  exact List.Perm.eq_of_pairwise (le := fun (p q : String × β) => p.1 < q.1)
    (fun _ _ _ _ h1 h2 => absurd h2 (String.lt_asymm h1)) (sortKV_sorted l hn) (sortKV_sorted l' hn')
    ((sortKV_perm l).trans (hp.trans (sortKV_perm l').symm))

theorem sortKV_idem (l : List (String × β)) (hn : (l.map (·.1)).Nodup) : sortKV (sortKV l) = sortKV l :=
  (sortKV_eq_of_perm (sortKV_perm l).symm hn).symm

theorem sortKV_snoc_inj {l : List (String × β)} {k : String} {x y : β} (hk : k ∉ l.map (·.1))
    (h : sortKV (l ++ [(k, x)]) = sortKV (l ++ [(k, y)])) : x = y := by
  have hm : (k, x) ∈ sortKV (l ++ [(k, y)]) := h ▸ mem_sortKV.mpr (List.mem_append_right _ List.mem_cons_self)
  rcases List.mem_append.mp (mem_sortKV.mp hm) with hm | hm
  · exact absurd (List.mem_map_of_mem (f := (·.1)) hm) hk
  · exact (Prod.mk.inj (List.mem_singleton.mp hm)).2

theorem map_fst_map_snd (f : β → γ) (l : List (String × β)) :
    (l.map (fun p => (p.1, f p.2))).map (·.1) = l.map (·.1) := by
  simp [List.map_map, Function.comp_def]

end sort

mutual
  /-- like `ser`, but object members are rendered in the order in which they are stored -/
  def serC : JVal → List Tok
    | .null => [.prim .null]
    | .bool b => [.prim (.bool b)]
    | .num t => [.prim (.num t)]
    | .str s => [.prim (.str s)]
    | .arr l => .lb :: serCL l ++ [.rb]
    | .obj o => .lc :: serKVs (serCO o) ++ [.rc]
  def serCL : JList → List Tok
    | .nil => []
    | .cons v .nil => serC v
    | .cons v l => serC v ++ .comma :: serCL l
  def serCO : JObj → List (String × List Tok)
    | .nil => []
    | .cons k v o => (k, serC v) :: serCO o
end

/-- what follows an array element -/
def sepL : JList → List Tok
  | .nil => []
  | .cons v l => .comma :: serCL (.cons v l)

/-- what follows an object member -/
def sepO : JObj → List Tok
  | .nil => []
  | .cons k v o => .comma :: serKVs (serCO (.cons k v o))

theorem serCL_cons (v : JVal) (l : JList) : serCL (.cons v l) = serC v ++ sepL l := by
  cases l with
  | nil => simp [serCL, sepL]
  | cons v' l' => simp [serCL, sepL]

theorem serKVs_cons (k : String) (ts : List Tok) (rest : List (String × List Tok)) :
    serKVs ((k, ts) :: rest) =
      .prim (.str k) :: .colon :: ts ++ (match rest with | [] => [] | _ :: _ => .comma :: serKVs rest) := by
  cases rest with
  | nil => simp [serKVs]
  | cons p r => simp [serKVs]

theorem serKVs_serCO_cons (k : String) (v : JVal) (o : JObj) :
    serKVs (serCO (.cons k v o)) = .prim (.str k) :: .colon :: serC v ++ sepO o := by
  rw [serCO, serKVs_cons]
  cases o with
  | nil => simp [serCO, sepO]
  | cons k' v' o' => simp [serCO, sepO]

/-- tokens that can start a value -/
def Tok.starts : Tok → Bool
  | .lb | .lc | .prim _ => true
  | _ => false

theorem serC_head (v : JVal) : ∃ t ts, serC v = t :: ts ∧ t.starts = true := by
  cases v <;> exact ⟨_, _, rfl, rfl⟩

/-- what follows an element is nothing, or a comma and the rest of the list, and the closing bracket is no comma:
it is prefix-free as soon as that list is -/
theorem sepL_pf_of {l l' : JList} {r r' : List Tok}
    (ih : ∀ r r', serCL l ++ .rb :: r = serCL l' ++ .rb :: r' → l = l' ∧ r = r')
    (h : sepL l ++ .rb :: r = sepL l' ++ .rb :: r') : l = l' ∧ r = r' := by
  cases l <;> cases l'
  · exact ⟨rfl, (List.cons.inj h).2⟩
  · cases h
  · cases h
  · exact ih r r' (List.cons.inj h).2

theorem sepO_pf_of {o o' : JObj} {r r' : List Tok}
    (ih : ∀ r r', serKVs (serCO o) ++ .rc :: r = serKVs (serCO o') ++ .rc :: r' → o = o' ∧ r = r')
    (h : sepO o ++ .rc :: r = sepO o' ++ .rc :: r') : o = o' ∧ r = r' := by
  cases o <;> cases o'
  · exact ⟨rfl, (List.cons.inj h).2⟩
  · cases h
  · cases h
  · exact ih r r' (List.cons.inj h).2

/- Each theorem matches on its first value only and takes the second one as a function argument: with two
   matched values of the `JVal` family per theorem Lean finds too many candidates for structural recursion
   and falls back to well-founded recursion on `sizeOf`. -/
mutual
  /-- the grammar is prefix-free: a value's token list determines where it ends -/
  theorem serC_pf : ∀ (v v' : JVal) (r r' : List Tok), serC v ++ r = serC v' ++ r' → v = v' ∧ r = r'
    | .null | .bool _ | .num _ | .str _ => fun v' r r' h => by
      cases v' <;> cases h <;> exact ⟨rfl, rfl⟩
    | .arr l => fun v' r r' h => by
      cases v' with
      | arr l' =>
        simp only [serC, List.cons_append, List.append_assoc, List.cons.injEq, true_and,
          List.nil_append] at h
        have := serCL_pf l l' r r' h
        simp [this.1, this.2]
      | _ => cases h
    | .obj o => fun v' r r' h => by
      cases v' with
      | obj o' =>
        simp only [serC, List.cons_append, List.append_assoc, List.cons.injEq, true_and,
          List.nil_append] at h
        have := serCO_pf o o' r r' h
        simp [this.1, this.2]
      | _ => cases h
  theorem serCL_pf : ∀ (l l' : JList) (r r' : List Tok),
      serCL l ++ .rb :: r = serCL l' ++ .rb :: r' → l = l' ∧ r = r'
    | .nil => fun l' r r' h => by
      cases l' with
      | nil => simpa [serCL] using h
      | cons v' l1' =>
        obtain ⟨t, ts, e, st⟩ := serC_head v'
        rw [serCL_cons, e] at h
        simp only [serCL, List.nil_append, List.cons_append, List.cons.injEq] at h
        rw [← h.1] at st; simp [Tok.starts] at st
    | .cons v l1 => fun l' r r' h => by
      cases l' with
      | nil =>
        obtain ⟨t, ts, e, st⟩ := serC_head v
        rw [serCL_cons, e] at h
        simp only [serCL, List.nil_append, List.cons_append, List.cons.injEq] at h
        rw [h.1] at st; simp [Tok.starts] at st
      | cons v' l1' =>
        rw [serCL_cons, serCL_cons, List.append_assoc, List.append_assoc] at h
        have h1 := serC_pf v v' _ _ h
        have h2 := sepL_pf_of (serCL_pf l1 l1') h1.2
        simp [h1.1, h2.1, h2.2]
  theorem serCO_pf : ∀ (o o' : JObj) (r r' : List Tok),
      serKVs (serCO o) ++ .rc :: r = serKVs (serCO o') ++ .rc :: r' → o = o' ∧ r = r'
    | .nil => fun o' r r' h => by
      cases o' with
      | nil => simpa [serCO, serKVs] using h
      | cons k' v' o1' =>
        rw [serKVs_serCO_cons] at h
        simp [serCO, serKVs] at h
    | .cons k v o1 => fun o' r r' h => by
      cases o' with
      | nil =>
        rw [serKVs_serCO_cons] at h
        simp [serCO, serKVs] at h
      | cons k' v' o1' =>
        rw [serKVs_serCO_cons, serKVs_serCO_cons] at h
        simp only [List.cons_append, List.cons.injEq, Tok.prim.injEq, Prim.str.injEq, true_and,
          List.append_assoc] at h
        have h1 := serC_pf v v' _ _ h.2
        have h2 := sepO_pf_of (serCO_pf o1 o1') h1.2
        simp [h.1, h1.1, h2.1, h2.2]
end

theorem sepL_pf : ∀ (l l' : JList) (r r' : List Tok),
      sepL l ++ .rb :: r = sepL l' ++ .rb :: r' → l = l' ∧ r = r' :=
  fun l l' _ _ => sepL_pf_of (serCL_pf l l')

theorem sepO_pf : ∀ (o o' : JObj) (r r' : List Tok),
      sepO o ++ .rc :: r = sepO o' ++ .rc :: r' → o = o' ∧ r = r' :=
  fun o o' _ _ => sepO_pf_of (serCO_pf o o')

theorem serC_injective {v w : JVal} (h : serC v = serC w) : v = w := by
  have := serC_pf v w [] [] (by simp [h])
  exact this.1

end Memento.Json
