import MementoModel.Lemmas.CacheInv
import MementoModel.Lemmas.AList

/-! How the invariant `Inv` of the `MemoryCache` model is established and kept, what the eviction loop drops, what each operation
    leaves resident. -/
namespace Memento.Cache

theorem total_nil : total [] = 0 := rfl

theorem total_cons (p : Key × Entry) (c) : total (p :: c) = p.2.size + total c := by
  simp [total]

theorem total_append (c d : List (Key × Entry)) : total (c ++ d) = total c + total d := by
  induction c with
  | nil => rw [List.nil_append, total_nil, Int.zero_add]
  | cons p c ih => simp only [List.cons_append, total_cons, ih]; omega

theorem total_sublist_le {c d : List (Key × Entry)} (h : c.Sublist d) : total c ≤ total d := by
  induction h with
  | slnil => exact Int.le_refl _
  | cons p _ ih => rw [total_cons]; omega
  | cons_cons p _ ih => simp only [total_cons]; omega

theorem mem_size_le_total {c : List (Key × Entry)} {p : Key × Entry} (h : p ∈ c) :
    (p.2.size : Int) ≤ total c := by
  have := total_sublist_le (List.singleton_sublist.mpr h)
  rw [total_cons, total_nil] at this
  omega

def remove (c : List (Key × Entry)) (k : Key) : List (Key × Entry) := c.filter (fun p => !(p.1 == k))

theorem lookup_eq_alookup (c : List (Key × Entry)) (k : Key) : lookup c k = Store.alookup c k := rfl

theorem refLookup_eq_alookup (r : List (Key × Nat)) (k : Key) : refLookup r k = Store.alookup r k := rfl

theorem remove_eq_adel (c : List (Key × Entry)) (k : Key) : remove c k = Store.adel c k := rfl

theorem lookup_nil (k : Key) : lookup [] k = none := rfl

theorem lookup_cons (p : Key × Entry) (c) (k : Key) :
    lookup (p :: c) k = if p.1 = k then some p.2 else lookup c k :=
  Store.alookup_cons p c k

theorem lookup_none_iff {c : List (Key × Entry)} {k : Key} : lookup c k = none ↔ k ∉ keys c :=
  Store.alookup_eq_none_iff

theorem hasKey_eq_isSome (c : List (Key × Entry)) (k : Key) : hasKey c k = (lookup c k).isSome := by
  rw [lookup, Option.isSome_map, Bool.eq_iff_iff, List.find?_isSome, hasKey, List.any_eq_true]

theorem hasKey_iff {c : List (Key × Entry)} {k : Key} : hasKey c k = true ↔ k ∈ keys c := by
  rw [hasKey_eq_isSome, Option.isSome_iff_ne_none, Ne, lookup_none_iff, Classical.not_not]

theorem lookup_append_of_ne {c : List (Key × Entry)} {k j : Key} {e : Entry} (h : k ≠ j) :
    lookup (c ++ [(k, e)]) j = lookup c j := by
  rw [lookup_eq_alookup, Store.alookup_append, Store.alookup_cons, if_neg h, Store.alookup_nil, Option.or_none]
  rfl

theorem lookup_remove_of_ne {c : List (Key × Entry)} {k j : Key} (h : j ≠ k) :
    lookup (remove c k) j = lookup c j :=
  (Store.alookup_adel c k j).trans (if_neg h)

theorem keys_remove (c : List (Key × Entry)) (k : Key) : keys (remove c k) = (keys c).filter (· ≠ k) :=
  Store.map_fst_adel c k

theorem mem_keys_remove (c : List (Key × Entry)) (k j : Key) :
    j ∈ keys (remove c k) ↔ j ∈ keys c ∧ j ≠ k := by
  rw [keys_remove]; simp

theorem remove_of_not_mem {c : List (Key × Entry)} {k : Key} (h : k ∉ keys c) : remove c k = c :=
  Store.adel_of_not_mem h

theorem total_remove {c : List (Key × Entry)} (hnd : (keys c).Nodup) (k : Key) :
    total (remove c k) = total c - (lookup c k).elim 0 (fun e => (e.size : Int)) := by
  induction c with
  | nil => rfl
  | cons p c ih =>
    have hnd' := List.nodup_cons.mp hnd
    rw [lookup_cons]
    by_cases hk : p.1 = k
    · rw [if_pos hk, remove, List.filter_cons_of_neg (by simp [hk]), ← remove, remove_of_not_mem (hk ▸ hnd'.1),
        total_cons]
      show total c = _ - (p.2.size : Int)
      omega
    · rw [if_neg hk, remove, List.filter_cons_of_pos (by simp [hk]), ← remove, total_cons, total_cons, ih hnd'.2]
      omega

/-- what the eviction loop and `forget_function` do to the entries -/
def removeAll (c : List (Key × Entry)) (ks : List Key) : List (Key × Entry) :=
  c.filter (fun p => !(ks.contains p.1))

theorem removeAll_nil (c : List (Key × Entry)) : removeAll c [] = c :=
  List.filter_eq_self.mpr fun _ _ => rfl

theorem removeAll_cons (c : List (Key × Entry)) (k : Key) (ks : List Key) :
    removeAll c (k :: ks) = removeAll (remove c k) ks := by
  simp only [removeAll, remove, List.filter_filter]
  apply List.filter_congr
  intro p _
  by_cases e : p.1 = k <;> simp [e]

theorem lookup_removeAll (c : List (Key × Entry)) (ks : List Key) (j : Key) :
    lookup (removeAll c ks) j = if j ∈ ks then none else lookup c j := by
  have : lookup (removeAll c ks) j = _ := Store.alookup_filter c (fun x => !(ks.contains x)) j
  rw [this]
  by_cases h : j ∈ ks <;> simp [h, lookup_eq_alookup]

structure Frame (s s' : State) : Prop where
  budget : s'.budget = s.budget
  refs   : s'.refs = s.refs

theorem Frame.rfl {s : State} : Frame s s := ⟨.refl _, .refl _⟩

theorem Frame.trans {s t u : State} (a : Frame s t) (b : Frame t u) : Frame s u :=
  ⟨b.budget.trans a.budget, b.refs.trans a.refs⟩

/-- the frame of `_mark_used` -/
structure Touched (s s' : State) : Prop extends Frame s s' where
  cache  : s'.cache = s.cache
  clock  : s.clock ≤ s'.clock

theorem Touched.rfl {s : State} : Touched s s := ⟨.rfl, .refl _, Nat.le_refl _⟩

theorem Touched.trans {s t u : State} (a : Touched s t) (b : Touched t u) : Touched s u :=
  ⟨a.toFrame.trans b.toFrame, b.cache.trans a.cache, Nat.le_trans a.clock b.clock⟩

/-- an entry is at most the total; strictly increasing stamps belong to distinct keys -/
theorem Inv.of_sorted {s : State} (usage_eq : s.usage = total s.cache) (keys_nodup : (keys s.cache).Nodup)
    (lru_mem : ∀ k, k ∈ s.lru ↔ k ∈ keys s.cache) (bounded : s.usage ≤ s.budget)
    (sorted : s.lru.Pairwise (fun a b => s.stamp a < s.stamp b)) (stamp_lt : ∀ k, s.stamp k < s.clock) : Inv s :=
  ⟨usage_eq, keys_nodup, sorted.imp fun {a b} (h : s.stamp a < s.stamp b) (e : a = b) => Nat.lt_irrefl _ (e ▸ h),
    lru_mem, fun p hp => by have := mem_size_le_total hp; omega, bounded, sorted, stamp_lt⟩

theorem nodup_concat {α} {l : List α} {a : α} (h : l.Nodup) (ha : a ∉ l) : (l ++ [a]).Nodup :=
  List.nodup_append.mpr ⟨h, List.pairwise_singleton _ _, fun _ hb _ hc e =>
    ha ((e.trans (List.mem_singleton.mp hc)) ▸ hb)⟩

/-- `Inv` reads neither `refs` nor `held` -/
theorem Inv.congr {s s' : State} (h : Inv s)
    (hb : s'.budget = s.budget := by rfl) (hu : s'.usage = s.usage := by rfl) (hc : s'.cache = s.cache := by rfl)
    (hl : s'.lru = s.lru := by rfl) (hk : s'.clock = s.clock := by rfl) (hs : s'.stamp = s.stamp := by rfl) :
    Inv s' := by
  cases s
  cases s'
  simp only at hb hu hc hl hk hs
  subst_vars
  exact ⟨h.usage_eq, h.keys_nodup, h.lru_nodup, h.lru_mem, h.sizes, h.bounded, h.sorted, h.stamp_lt⟩

theorem Inv.of_empty {s : State} (hc : s.cache = []) (hl : s.lru = []) (hu : s.usage = 0)
    (hs : ∀ k, s.stamp k < s.clock) : Inv s := by
  refine ⟨?_, ?_, ?_, ?_, ?_, ?_, ?_, hs⟩ <;> simp [hc, hl, hu, keys, total]

theorem evict_eq (s : State) (k : Key) :
    evict s k = { s with usage := s.usage - (lookup s.cache k).elim 0 (fun e => (e.size : Int)),
                         cache := remove s.cache k, lru := s.lru.erase k } := by
  unfold evict
  cases h : lookup s.cache k with
  | none => simp [remove_of_not_mem (lookup_none_iff.mp h)]
  | some e => rfl

theorem evict_cache (s : State) (k : Key) : (evict s k).cache = remove s.cache k := by
  rw [evict_eq]

theorem evict_lru (s : State) (k : Key) : (evict s k).lru = s.lru.erase k := by
  rw [evict_eq]

theorem evict_frame (s : State) (k : Key) : Frame s (evict s k) := by
  rw [evict_eq]; exact ⟨rfl, rfl⟩

theorem evict_budget (s : State) (k : Key) : (evict s k).budget = s.budget :=
  (evict_frame s k).budget

theorem evict_usage_le (s : State) (k : Key) : (evict s k).usage ≤ s.usage := by
  rw [evict_eq]
  cases lookup s.cache k with
  | none => exact Int.le_of_eq (Int.sub_zero _)
  | some e => show s.usage - (e.size : Int) ≤ s.usage; omega

theorem evict_not_mem (s : State) (k : Key) : k ∉ keys (evict s k).cache := by
  rw [evict_cache, mem_keys_remove]; simp

theorem mem_evict_cache {s : State} {k : Key} {p : Key × Entry} (h : p ∈ (evict s k).cache) :
    p ∈ s.cache ∧ p.1 ≠ k := by
  rw [evict_cache, remove_eq_adel] at h
  exact Store.mem_adel.mp h

theorem evict_inv {s : State} (k : Key) (h : Inv s) : Inv (evict s k) := by
  have hle := evict_usage_le s k
  rw [evict_eq] at hle ⊢
  refine .of_sorted ?_ ?_ (fun j => ?_) (Int.le_trans hle h.bounded) (h.sorted.erase k) h.stamp_lt
  · show s.usage - _ = total (remove s.cache k)
    rw [total_remove h.keys_nodup, h.usage_eq]
  · show (keys (remove s.cache k)).Nodup
    rw [keys_remove]; exact h.keys_nodup.sublist List.filter_sublist
  · show j ∈ s.lru.erase k ↔ j ∈ keys (remove s.cache k)
    rw [mem_keys_remove, h.lru_nodup.mem_erase_iff, h.lru_mem]
    exact And.comm

/-- the loop of `forget_function` -/
theorem foldl_evict_spec (ks : List Key) : ∀ s : State, Frame s (ks.foldl evict s) ∧
    (ks.foldl evict s).cache = removeAll s.cache ks ∧ (Inv s → Inv (ks.foldl evict s)) := by
  induction ks with
  | nil => exact fun s => ⟨.rfl, (removeAll_nil _).symm, id⟩
  | cons k ks ih =>
    intro s
    obtain ⟨f, c, i⟩ := ih (evict s k)
    exact ⟨(evict_frame s k).trans f, by rw [List.foldl_cons, c, evict_cache, removeAll_cons], fun h => i (evict_inv k h)⟩

/-- the step common to `_mark_used` and the tail of `put` -/
theorem push_newest {l : List Key} {st : Key → Nat} {c : Nat} {k : Key}
    (hs : l.Pairwise (fun a b => st a < st b)) (hlt : ∀ j, st j < c) (hk : k ∉ l) :
    (l ++ [k]).Pairwise (fun a b => (if a = k then c else st a) < (if b = k then c else st b)) ∧
    ∀ j, (if j = k then c else st j) < c + 1 := by
  have hne : ∀ a ∈ l, a ≠ k := fun a ha e => hk (e ▸ ha)
  refine ⟨?_, fun j => ?_⟩
  · refine List.pairwise_append.mpr ⟨?_, List.pairwise_singleton _ _, fun a ha b hb => ?_⟩
    · exact hs.imp_of_mem fun {a b} ha hb hab => by rwa [if_neg (hne a ha), if_neg (hne b hb)]
    · rw [List.mem_singleton.mp hb, if_neg (hne a ha), if_pos rfl]
      exact hlt a
  · split
    · omega
    · exact Nat.lt_succ_of_lt (hlt j)

theorem markUsed_touched (s : State) (k : Key) : Touched s (markUsed s k) :=
  ⟨⟨rfl, rfl⟩, rfl, Nat.le_succ _⟩

theorem markUsed_inv {s : State} (k : Key) (h : Inv s) (hk : k ∈ keys s.cache) : Inv (markUsed s k) := by
  obtain ⟨so, lt⟩ := push_newest (h.sorted.erase k) h.stamp_lt (fun hx => (h.lru_nodup.mem_erase_iff.mp hx).1 rfl)
  refine .of_sorted h.usage_eq h.keys_nodup (fun j => ?_) h.bounded so lt
  show j ∈ s.lru.erase k ++ [k] ↔ j ∈ keys s.cache
  rw [List.mem_append, List.mem_singleton, h.lru_nodup.mem_erase_iff, h.lru_mem]
  by_cases e : j = k
  · simp [e, hk]
  · simp [e]

/-- the tail of `put` -/
theorem Inv.push {S : State} (h : Inv S) {k : Key} (hk : k ∉ keys S.cache) (e : Entry)
    (hfit : S.usage + e.size ≤ S.budget) :
    Inv (touchStamp { S with cache := S.cache ++ [(k, e)], lru := S.lru ++ [k], usage := S.usage + e.size } k) := by
  obtain ⟨so, lt⟩ := push_newest h.sorted h.stamp_lt (fun hx => hk ((h.lru_mem k).mp hx))
  refine .of_sorted ?_ ?_ (fun j => ?_) hfit so lt
  · show S.usage + e.size = total (S.cache ++ [(k, e)])
    rw [total_append, total_cons, total_nil, h.usage_eq]
    show _ = _ + ((e.size : Int) + 0)
    omega
  · show (keys (S.cache ++ [(k, e)])).Nodup
    rw [keys, List.map_append]
    exact nodup_concat h.keys_nodup hk
  · show j ∈ S.lru ++ [k] ↔ j ∈ keys (S.cache ++ [(k, e)])
    rw [keys, List.map_append, List.mem_append, List.mem_append, h.lru_mem j]
    rfl

theorem makeRoom_loop (size n : Nat) (s : State) :
    Frame s (makeRoom size n s) ∧ (makeRoom size n s).cache.Sublist s.cache ∧
    (s.lru.length ≤ n → (makeRoom size n s).lru = [] ∨ (makeRoom size n s).usage + size ≤ s.budget) := by
  fun_induction makeRoom size n s with
  | case1 s => exact ⟨.rfl, .refl _, fun h => .inl (List.eq_nil_of_length_eq_zero (by omega))⟩
  | case2 n s hl => exact ⟨.rfl, .refl _, fun _ => .inl hl⟩
  | case3 n s k rest hl hover ih =>
    obtain ⟨f, sub, ex⟩ := ih
    have fe : Frame s (evict { s with lru := rest } k) :=
      Frame.trans (t := { s with lru := rest }) ⟨rfl, rfl⟩ (evict_frame _ k)
    refine ⟨fe.trans f, sub.trans (evict_cache _ k ▸ List.filter_sublist), fun hn => ?_⟩
    have := List.length_erase_le (a := k) (l := rest)
    rw [hl] at hn
    have := ex (by rw [evict_lru]; simp only [List.length_cons] at hn ⊢; omega)
    rwa [fe.budget] at this
  | case4 n s k rest hl hfit => exact ⟨.rfl, .refl _, fun _ => .inr (by omega)⟩

/-- the loop evicts the shortest prefix of the deque that makes room -/
theorem makeRoom_spec (size n : Nat) {s : State} (h : Inv s) :
    ∃ m, Inv (makeRoom size n s) ∧ (makeRoom size n s).lru = s.lru.drop m ∧
      (makeRoom size n s).cache = removeAll s.cache (s.lru.take m) ∧
      ∀ m' < m, total (removeAll s.cache (s.lru.take m')) + size > s.budget := by
  fun_induction makeRoom size n s with
  | case1 s => exact ⟨0, h, rfl, (removeAll_nil _).symm, by omega⟩
  | case2 n s hl => exact ⟨0, h, rfl, (removeAll_nil _).symm, by omega⟩
  | case4 n s k rest hl hfit => exact ⟨0, h, rfl, (removeAll_nil _).symm, by omega⟩
  | case3 n s k rest hl hover ih =>
    have hk : k ∉ rest := (List.nodup_cons.mp (hl ▸ h.lru_nodup)).1
    have he : evict { s with lru := rest } k = evict s k := by
      rw [evict_eq, evict_eq, hl, List.erase_cons_head, List.erase_of_not_mem hk]
    rw [he] at ih ⊢
    obtain ⟨m, hi, h1, h2, h3⟩ := ih (evict_inv k h)
    -- `ih` is about `rest`; `(k :: rest).drop (m + 1)` and `.take (m + 1)` reduce to it by `rfl`
    simp only [evict_lru, evict_cache, evict_budget, hl, List.erase_cons_head, ← removeAll_cons] at h1 h2 h3
    rw [hl]
    refine ⟨m + 1, hi, h1, h2, fun m' hm' => ?_⟩
    cases m' with
    | zero => rw [List.take_zero, removeAll_nil, ← h.usage_eq]; exact hover
    | succ j => exact h3 j (by omega)

theorem Inv.cache_nil_of_lru_nil {s : State} (h : Inv s) (hl : s.lru = []) : s.cache = [] :=
  List.map_eq_nil_iff.mp (List.eq_nil_iff_forall_not_mem.mpr fun k hk => by simpa [hl] using (h.lru_mem k).mpr hk)

theorem makeRoom_fits (size : Nat) : ∀ (n : Nat) (s : State), Inv s → s.lru.length ≤ n → size ≤ s.budget →
    (makeRoom size n s).usage + size ≤ s.budget := by
  intro n s h hn hsz
  rcases (makeRoom_loop size n s).2.2 hn with hl | hfit
  · obtain ⟨_, h', -⟩ := makeRoom_spec size n h
    rw [h'.usage_eq, h'.cache_nil_of_lru_nil hl, total_nil]
    omega
  · exact hfit

theorem putCore_frame (s : State) (k : Key) (m v size : Nat) (hr : Bool) : Frame s (putCore s k m v size hr) := by
  have f : Frame s (makeRoom size (evict s k).lru.length (evict s k)) :=
    (evict_frame s k).trans (makeRoom_loop size _ _).1
  -- unfolded first: left to `exact`, the unifier would unfold `makeRoom`
  unfold putCore touchStamp
  exact ⟨f.budget, f.refs⟩

theorem putCore_spec {s : State} (k : Key) (m v size : Nat) (hr : Bool) (h : Inv s) (hsz : size ≤ s.budget) :
    ∃ n, Inv (putCore s k m v size hr) ∧
      (putCore s k m v size hr).lru = (s.lru.erase k).drop n ++ [k] ∧
      (putCore s k m v size hr).cache =
        removeAll (remove s.cache k) ((s.lru.erase k).take n) ++ [(k, ⟨size, m, v, hr⟩)] ∧
      ∀ n' < n, total (removeAll (remove s.cache k) ((s.lru.erase k).take n')) + size > s.budget := by
  have h1 := evict_inv k h
  have hfit := makeRoom_fits size _ _ h1 (Nat.le_refl _) (by rw [evict_budget]; exact hsz)
  obtain ⟨f, hsub, -⟩ := makeRoom_loop size (evict s k).lru.length (evict s k)
  obtain ⟨n, h2, hl, hc, hmin⟩ := makeRoom_spec size (evict s k).lru.length h1
  simp only [putCore, touchStamp]
  generalize makeRoom size (evict s k).lru.length (evict s k) = S at *
  rw [evict_lru] at hl hc hmin
  rw [evict_cache] at hc hmin
  rw [evict_budget] at hmin hfit
  refine ⟨n, ?_, congrArg (· ++ [k]) hl, congrArg (· ++ [_]) hc, hmin⟩
  have hb : S.budget = s.budget := f.budget.trans (evict_budget s k)
  exact Inv.push h2 (fun hx => evict_not_mem s k ((hsub.map _).subset hx)) ⟨size, m, v, hr⟩ (hb ▸ hfit)

theorem inv_init (b : Nat) : Inv (init b) :=
  .of_empty rfl rfl rfl fun _ => Nat.zero_lt_one

theorem prune_inv {s : State} (h : Inv s) : Inv (prune s) :=
  h.congr

/-- `r`: what the `_put_ref`s on the way have made of `refs` -/
theorem put_cases {P : State → Prop} (s : State) (k : Key) (m v size : Nat) (w hr : Bool) (vc : Option Nat)
    (hbig : ∀ r, size > s.budget → P (evict { s with refs := r } k))
    (hfit : ∀ r, size ≤ s.budget → P (putCore { s with refs := r } k m (vc.getD v) size hr)) :
    P (put s k m v size w hr vc) := by
  have key : ∀ r, P (putSized { s with refs := r } k m v size w hr vc) := by
    intro r
    unfold putSized
    split
    · rename_i h; exact hbig r h
    · rename_i h
      cases vc with
      | none => exact hfit r (Nat.le_of_not_gt h)
      | some v' => cases w <;> exact hfit _ (Nat.le_of_not_gt h)
  unfold put
  cases hr
  · exact key s.refs
  · cases w <;> exact key _

theorem put_inv {s : State} (k : Key) (m v size : Nat) (w hr : Bool) (vc : Option Nat) (h : Inv s) :
    Inv (put s k m v size w hr vc) :=
  put_cases s k m v size w hr vc (fun _ _ => evict_inv k (h.congr))
    fun r hsz => (putCore_spec (s := { s with refs := r }) k m _ size hr (h.congr) hsz).elim fun _ h => h.1

theorem isMemoized_cases {P : State → Prop} {s : State} {k : Key} (h0 : k ∉ keys s.cache → P s)
    (h1 : k ∈ keys s.cache → P (markUsed s k)) : P (isMemoized s k).1 := by
  unfold isMemoized
  split
  · rename_i hk; exact h1 (hasKey_iff.mp hk)
  · rename_i hk; exact h0 fun hm => hk (hasKey_iff.mpr hm)

theorem readResult_cases {P : State → Prop} {s : State} {k : Key} (h0 : P s)
    (h1 : k ∈ keys s.cache → P (markUsed s k)) : P (readResult s k).1 := by
  unfold readResult
  split
  · rename_i e he
    split
    · exact h1 (List.mem_map.mpr ⟨_, Store.alookup_mem he, rfl⟩)
    · exact h0
  · split <;> exact h0

theorem isMemoized_inv {s : State} (k : Key) (h : Inv s) : Inv (isMemoized s k).1 :=
  isMemoized_cases (fun _ => h) (markUsed_inv k h)

theorem readResult_inv {s : State} (k : Key) (h : Inv s) : Inv (readResult s k).1 :=
  readResult_cases h (markUsed_inv k h)

theorem isMemoized_touched (s : State) (k : Key) : Touched s (isMemoized s k).1 :=
  isMemoized_cases (P := Touched s) (fun _ => .rfl) fun _ => markUsed_touched s k

theorem readResult_touched (s : State) (k : Key) : Touched s (readResult s k).1 :=
  readResult_cases (P := Touched s) .rfl fun _ => markUsed_touched s k

theorem isAllMemoized_spec (ks : List Key) : ∀ s : State,
    Touched s (isAllMemoized s ks).1 ∧ (Inv s → Inv (isAllMemoized s ks).1) := by
  induction ks with
  | nil => exact fun _ => ⟨.rfl, id⟩
  | cons k ks ih =>
    exact fun s => ⟨(isMemoized_touched s k).trans (ih _).1, fun h => (ih _).2 (isMemoized_inv k h)⟩

theorem stepRaw_inv {s : State} (op : Op) (h : Inv s) : Inv (stepRaw s op).1 := by
  cases op with
  | put k m v sz wr hr vc => exact put_inv k m v sz wr hr vc h
  | getm ks => exact h
  | read k => exact readResult_inv k h
  | ismem k => exact isMemoized_inv k h
  | allmem ks => exact (isAllMemoized_spec ks s).2 h
  | fcall k => exact evict_inv k (h.congr)
  | ffn fn => exact (foldl_evict_spec _ _).2.2 (h.congr)
  | fall => exact .of_empty rfl rfl rfl h.stamp_lt
  | hold v => exact h.congr
  | drop v => exact h.congr

theorem inv_step {s : State} (op : Op) (h : Inv s) : Inv (step s op).1 :=
  prune_inv (stepRaw_inv op h)

theorem run_inv (ops : List Op) : ∀ {s : State}, Inv s → Inv (run s ops) := by
  induction ops with
  | nil => intro s h; exact h
  | cons op ops ih => intro s h; exact ih (inv_step op h)

theorem isAllMemoized_clock_le (ks : List Key) : ∀ s : State, s.clock ≤ (isAllMemoized s ks).1.clock :=
  fun s => (isAllMemoized_spec ks s).1.clock

theorem isMemoized_snd (s : State) (k : Key) :
    (isMemoized s k).2 = (hasKey s.cache k || (refLookup s.refs k).isSome) := by
  unfold isMemoized
  split <;> simp [*]

theorem isMemoized_stamp_other (s : State) (k j : Key) (hj : j ≠ k) : (isMemoized s k).1.stamp j = s.stamp j :=
  isMemoized_cases (P := fun s' => s'.stamp j = s.stamp j) (fun _ => rfl) fun _ => if_neg hj

theorem isMemoized_stamp_self (s : State) (k : Key) (hk : k ∈ keys s.cache) : (isMemoized s k).1.stamp k = s.clock :=
  isMemoized_cases (P := fun s' => s'.stamp k = s.clock) (fun hn => absurd hk hn) fun _ => if_pos rfl

theorem isAllMemoized_stamp_other (ks : List Key) (j : Key) (hj : j ∉ ks) :
    ∀ s : State, (isAllMemoized s ks).1.stamp j = s.stamp j := by
  induction ks with
  | nil => intro s; rfl
  | cons k ks ih =>
    intro s
    simp only [List.mem_cons, not_or] at hj
    simp only [isAllMemoized]
    rw [ih hj.2, isMemoized_stamp_other s k j hj.1]

theorem isAllMemoized_stamp_queried (ks : List Key) (k : Key) (hk : k ∈ ks) :
    ∀ s : State, k ∈ keys s.cache → s.clock ≤ (isAllMemoized s ks).1.stamp k := by
  induction ks with
  | nil => exact absurd hk (by simp)
  | cons a ks ih =>
    intro s hres
    simp only [isAllMemoized]
    by_cases hin : k ∈ ks
    · have := ih hin (isMemoized s a).1 (by rw [(isMemoized_touched s a).cache]; exact hres)
      exact Nat.le_trans (isMemoized_touched s a).clock this
    · have hka : k = a := (List.mem_cons.mp hk).resolve_right hin
      subst hka
      rw [isAllMemoized_stamp_other ks k hin, isMemoized_stamp_self s k hres]
      exact Nat.le_refl _

theorem put_budget (s : State) (k m v size w hr vc) : (put s k m v size w hr vc).budget = s.budget :=
  put_cases (P := fun s' => s'.budget = s.budget) s k m v size w hr vc (fun _ _ => evict_budget _ k)
    fun _ _ => (putCore_frame ..).budget

theorem step_budget (s : State) (op : Op) : (step s op).1.budget = s.budget := by
  -- `prune` keeps the budget
  show (stepRaw s op).1.budget = s.budget
  cases op with
  | put k m v sz wr hr vc => exact put_budget s k m v sz wr hr vc
  | read k => exact (readResult_touched s k).budget
  | ismem k => exact (isMemoized_touched s k).budget
  | allmem ks => exact (isAllMemoized_spec ks s).1.budget
  | fcall k => exact (evict_frame _ k).budget
  | ffn fn => exact (foldl_evict_spec _ _).1.budget
  | _ => rfl

theorem run_budget (ops : List Op) : ∀ (s : State), (run s ops).budget = s.budget := by
  induction ops with
  | nil => intro s; rfl
  | cons op ops ih => intro s; simp only [run, List.foldl_cons] at ih ⊢; rw [ih, step_budget]

theorem forgetFunction_cache (s : State) (fn : Nat) :
    (forgetFunction s fn).cache = s.cache.filter (fun p => !(p.1.fn == fn)) := by
  show (List.foldl evict _ _).cache = _
  rw [(foldl_evict_spec _ _).2.1]
  refine List.filter_congr fun p hp => congrArg (!·) ?_
  rw [Bool.eq_iff_iff, List.contains_iff_mem, List.mem_map]
  exact ⟨fun ⟨q, hq, e⟩ => e ▸ (List.mem_filter.mp hq).2, fun h => ⟨p, List.mem_filter.mpr ⟨hp, h⟩, rfl⟩⟩

/-- the keys a forget operation removes (`none`: not a forget operation) -/
def forgets : Op → Option (Key → Bool)
  | .fcall k => some (· == k)
  | .ffn f => some (·.fn == f)
  | .fall => some fun _ => true
  | _ => none

theorem stepRaw_forgets {op : Op} {d : Key → Bool} (h : forgets op = some d) (s : State) :
    (stepRaw s op).1.cache = s.cache.filter (fun p => !(d p.1)) ∧
    (stepRaw s op).1.refs = s.refs.filter (fun p => !(d p.1)) := by
  cases op with
  | fcall k => cases h; exact ⟨evict_cache _ _, (evict_frame _ _).refs⟩
  | ffn f => cases h; exact ⟨forgetFunction_cache s _, (foldl_evict_spec _ _).1.refs⟩
  | fall =>
    cases h
    exact ⟨(List.filter_eq_nil_iff.mpr fun _ _ => by simp).symm, (List.filter_eq_nil_iff.mpr fun _ _ => by simp).symm⟩
  | _ => cases h

theorem run_forgets (ops : List Op) : ∀ (s : State), (∀ op ∈ ops, (forgets op).isSome) →
    (run s ops).cache = s.cache.filter (fun p => !(ops.any fun op => (forgets op).any (· p.1))) := by
  induction ops with
  | nil => intro s _; exact (List.filter_eq_self.mpr fun _ _ => rfl).symm
  | cons op ops ih =>
    intro s hall
    obtain ⟨d, hd⟩ := Option.isSome_iff_exists.mp (hall op List.mem_cons_self)
    have := ih (step s op).1 fun o ho => hall o (List.mem_cons_of_mem _ ho)
    simp only [run, List.foldl_cons] at this ⊢
    rw [this, show (step s op).1.cache = _ from (stepRaw_forgets hd s).1, List.filter_filter]
    simp only [List.any_cons, hd, Option.any_some, Bool.not_or, Bool.and_comm]

theorem run_forgets_empties {ops : List Op} {s : State} (hall : ∀ op ∈ ops, (forgets op).isSome)
    (hcover : ∀ k ∈ keys s.cache, ∃ op ∈ ops, (forgets op).any (· k) = true) : (run s ops).cache = [] := by
  rw [run_forgets ops s hall, List.filter_eq_nil_iff]
  intro p hp
  rw [List.any_eq_true.mpr (hcover p.1 (List.mem_map.mpr ⟨p, hp, rfl⟩))]
  exact Bool.false_ne_true

-- `vcopy = none`, as the backend calls `put`: a copy is registered by a second `_put_ref`
theorem putSized_refs (s : State) (k : Key) (m v size : Nat) (w hr : Bool) :
    (putSized s k m v size w hr none).refs = s.refs := by
  unfold putSized
  split
  · exact (evict_frame s k).refs
  · exact (putCore_frame ..).refs

theorem mem_putRef_refs {s : State} {k : Key} {v : Nat} {w : Bool} {p : Key × Nat}
    (h : p ∈ (putRef s k v w).refs) : p = (k, v) ∨ (p ∈ s.refs ∧ p.1 ≠ k) := by
  unfold putRef at h
  split at h
  · change p ∈ (k, v) :: Store.adel s.refs k at h
    rcases List.mem_cons.mp h with h | h
    · exact Or.inl h
    · exact Or.inr (Store.mem_adel.mp h)
  · change p ∈ Store.adel s.refs k at h
    exact Or.inr (Store.mem_adel.mp h)

theorem mem_put_cache {s : State} {k : Key} {m v size : Nat} {w hr : Bool} {vc : Option Nat} {p : Key × Entry}
    (h : p ∈ (put s k m v size w hr vc).cache) :
    p = (k, ⟨size, m, vc.getD v, hr⟩) ∨ (p ∈ s.cache ∧ p.1 ≠ k) := by
  revert h
  refine put_cases (P := fun s' => p ∈ s'.cache → _) s k m v size w hr vc
    (fun r _ h => .inr (mem_evict_cache (s := { s with refs := r }) h)) fun r _ h => ?_
  simp only [putCore, touchStamp, List.mem_append, List.mem_singleton] at h
  rcases h with h | h
  · exact .inr (mem_evict_cache (s := { s with refs := r }) ((makeRoom_loop size _ _).2.1.subset h))
  · exact .inl h

theorem mem_put_refs {s : State} {k : Key} {m v size : Nat} {w hr : Bool} {p : Key × Nat}
    (h : p ∈ (put s k m v size w hr none).refs) :
    (hr = true ∧ p = (k, v)) ∨ (p ∈ s.refs ∧ (hr = true → p.1 ≠ k)) := by
  unfold put at h
  rw [putSized_refs] at h
  cases hr with
  | true =>
    rcases mem_putRef_refs h with h | h
    · exact Or.inl ⟨rfl, h⟩
    · exact Or.inr ⟨h.1, fun _ => h.2⟩
  | false => exact Or.inr ⟨h, fun e => by cases e⟩

theorem prune_cache (s : State) : (prune s).cache = s.cache := rfl

theorem mem_prune_refs {s : State} {p : Key × Nat} (h : p ∈ (prune s).refs) : p ∈ s.refs :=
  (List.mem_filter.mp h).1

theorem readResult_value {s : State} {k : Key} {v : Nat} (h : (readResult s k).2 = .value v) :
    (∃ e, (k, e) ∈ s.cache ∧ e.hasValue = true ∧ e.val = v) ∨ (k, v) ∈ s.refs := by
  unfold readResult at h
  split at h
  · rename_i e he
    split at h
    · rename_i hv
      cases h
      exact Or.inl ⟨e, Store.alookup_mem he, hv, rfl⟩
    · cases h
  · split at h
    · rename_i v' hv'
      cases h
      exact Or.inr (Store.alookup_mem hv')
    · cases h

theorem isMemoized_true {s : State} {k : Key} (h : (isMemoized s k).2 = true) :
    (∃ e, (k, e) ∈ s.cache) ∨ (∃ v, (k, v) ∈ s.refs) := by
  rw [isMemoized_snd, Bool.or_eq_true] at h
  rcases h with h | h
  · obtain ⟨p, hp, rfl⟩ := List.mem_map.mp (hasKey_iff.mp h)
    exact Or.inl ⟨p.2, hp⟩
  · obtain ⟨v, hv⟩ := Option.isSome_iff_exists.mp h
    exact Or.inr ⟨v, Store.alookup_mem hv⟩

theorem mem_stepRaw_forgets {op : Op} {d : Key → Bool} (h : forgets op = some d) (s : State) :
    (∀ p ∈ (stepRaw s op).1.cache, p ∈ s.cache ∧ d p.1 = false) ∧
    (∀ p ∈ (stepRaw s op).1.refs, p ∈ s.refs ∧ d p.1 = false) := by
  obtain ⟨hc, hr⟩ := stepRaw_forgets h s
  rw [hc, hr]
  exact ⟨fun p hp => by simpa using hp, fun p hp => by simpa using hp⟩

/-- `prune`: the pruning that follows every cache operation of the backend -/
theorem forgetCall_no_claim (c : State) (k : Key) :
    hasKey (prune (forgetCall c k)).cache k = false ∧ refLookup (prune (forgetCall c k)).refs k = none := by
  refine ⟨?_, Store.alookup_eq_none_iff.mpr fun hx => ?_⟩
  · rw [prune_cache, ← Bool.not_eq_true, hasKey_iff]
    exact evict_not_mem _ k
  · obtain ⟨p, hp, e⟩ := List.mem_map.mp hx
    exact ne_of_beq_false ((mem_stepRaw_forgets (op := .fcall k) rfl c).2 p (mem_prune_refs hp)).2 e

end Memento.Cache
