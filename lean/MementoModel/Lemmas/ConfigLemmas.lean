import MementoModel.Model.Config
import MementoModel.Lemmas.AList

/-! `orElse`, `repoGet` and `getCluster` are `Option.or`, `Store.alookup` and `List.findSome?`. -/
namespace Memento.Config

theorem orElse_eq_or {α} (a b : Option α) : orElse a b = a.or b := by
  cases a <;> rfl

theorem truthy_idem (c : Option Nat) : truthy (truthy c) = truthy c := by
  cases c with
  | none => rfl
  | some n => cases n <;> rfl

theorem mkStorage_dumpLoad (home : Str) (cfg : StorageCfg) (args : StorageArgs) :
    mkStorage home (storageToCfg (mkStorage home cfg args)) {} = mkStorage home cfg args := by
  simp only [mkStorage]
  by_cases h : cfg.type = 0
  · simp only [h, if_true, storageToCfg, orElse_eq_or, Option.none_or, Option.getD_some, truthy_idem]
    generalize (args.path.or cfg.path).getD home = p
    generalize (args.metaPath.or cfg.metaPath).getD p = m
    -- `to_dict` leaves `metadata_path` out when it equals the path; reading it back defaults to the path
    by_cases hmp : m = p
    · simp [hmp]
    · simp [hmp]
  · simp only [h, if_false, storageToCfg, orElse_eq_or, Option.none_or, Option.getD_some]

theorem mkCluster_dumpLoad {home : Str} {c : ClusterSig} (h : ∃ sc a, c.storage = mkStorage home sc a) :
    mkCluster home (clusterToCfg c) none none = c := by
  obtain ⟨nm, st, rn⟩ := c
  obtain ⟨sc, a, rfl⟩ := h
  simp only [mkCluster, clusterToCfg, Option.getD_some, mkStorage_dumpLoad]

theorem repoGet_eq (r : Repo) (n : Str) : repoGet r n = Store.alookup r n :=
  Store.alookup_unique repoGet (fun _ => rfl) (fun _ _ _ => rfl) r n

theorem getCluster_eq (e : Env) (n : Str) : getCluster e n = e.findSome? (repoGet · n) := by
  fun_induction getCluster e n with
  | case1 n => rfl
  | case2 r rs n c hc => rw [List.findSome?_cons, hc]
  | case3 r rs n hc ih => rw [List.findSome?_cons, hc, ih]

theorem repoGet_mkRepo_none (home : Str) (cfgs : List (Str × ClusterCfg)) (k : Str) :
    repoGet (mkRepo home cfgs none) k = (Store.alookup cfgs k).map (fun cc => mkCluster home cc none none) := by
  rw [repoGet_eq]
  exact Store.alookup_map_val cfgs (fun _ cc => mkCluster home cc none none) k

end Memento.Config
