import MementoModel.Model.QName

/-! The name grammar at character level, file names, and `resolve` as one equation on any name that parses. -/
namespace Memento.QName

theorem takeWhile_stop {α} {p : α → Bool} (a : List α) (c : α) (r : List α)
    (ha : ∀ x ∈ a, p x = true) (hc : p c = false) :
    (a ++ c :: r).takeWhile p = a ∧ (a ++ c :: r).dropWhile p = c :: r := by
  rw [List.takeWhile_append_of_pos ha, List.dropWhile_append_of_pos ha]
  simp [hc]

theorem takeWhile_all {α} {p : α → Bool} (a : List α) (ha : ∀ x ∈ a, p x = true) :
    a.takeWhile p = a ∧ a.dropWhile p = [] := by
  have h1 := List.takeWhile_append_of_pos (l₂ := []) ha
  have h2 := List.dropWhile_append_of_pos (l₂ := []) ha
  simpa using And.intro h1 h2

theorem not_mem_takeWhile {α} {p : α → Bool} {c : α} (hc : p c = false) (l : List α) : c ∉ l.takeWhile p := by
  intro hm
  have := List.all_eq_true.mp List.all_takeWhile c hm
  rw [hc] at this
  cases this

theorem head?_dropWhile_stop {α} {p : α → Bool} {c : α} (a r : List α) (hc : p c = false)
    (ha : ∀ x ∈ a, p x = false → x = c) : ((a ++ c :: r).dropWhile p).head? = some c := by
  induction a with
  | nil => rw [List.nil_append, List.dropWhile_cons_of_neg (by simp [hc])]; rfl
  | cons x a ih =>
    rw [List.cons_append, List.dropWhile_cons]
    split
    · exact ih (fun y hy => ha y (List.mem_cons_of_mem _ hy))
    · rename_i hx
      rw [List.head?_cons, ha x List.mem_cons_self (Bool.eq_false_iff.mpr hx)]

theorem bne_of_not_mem {α} [BEq α] [LawfulBEq α] {c : α} {l : List α} (h : c ∉ l) : ∀ x ∈ l, (x != c) = true :=
  fun _ hx => bne_iff_ne.mpr (fun e => h (e ▸ hx))

theorem isModCh_of {m : Str} (h1 : ':' ∉ m) (h2 : '#' ∉ m) : ∀ x ∈ m, isModCh x = true :=
  fun x hx => Bool.and_eq_true_iff.mpr ⟨bne_of_not_mem h1 x hx, bne_of_not_mem h2 x hx⟩

/-- admissible version: no newline (`.` of the regular expression stops there) -/
def VerOk : Option Str → Prop
  | none => True
  | some v => '\n' ∉ v

theorem parseVer_suffix {v : Option Str} (hv : VerOk v) : parseVer (verSuffix v) = v := by
  cases v with
  | none => simp [verSuffix, parseVer]
  | some v =>
    have := (takeWhile_all (p := notNl) v (bne_of_not_mem hv)).1
    simp [verSuffix, parseVer, this]

theorem parseRest_build {m f : Str} {v : Option Str} (hm1 : ':' ∉ m) (hm2 : '#' ∉ m) (hf : '#' ∉ f)
    (hv : VerOk v) : parseRest (m ++ ':' :: (f ++ verSuffix v)) = some (m, f, v) := by
  have h := takeWhile_stop (p := isModCh) m ':' (f ++ verSuffix v) (isModCh_of hm1 hm2) (by decide)
  have g : (f ++ verSuffix v).takeWhile notHash = f ∧ (f ++ verSuffix v).dropWhile notHash = verSuffix v := by
    cases v with
    | none =>
      rw [verSuffix, List.append_nil]
      exact takeWhile_all f (bne_of_not_mem hf)
    | some v => exact takeWhile_stop f '#' v (bne_of_not_mem hf) (by decide)
  simp [parseRest, h.1, h.2, g.1, g.2, parseVer_suffix hv]

theorem stripDC_cons (a : Char) (r : Str) :
    stripDC (a :: r) = if a = ':' ∧ r.head? = some ':' then some r.tail else none := by
  cases r with
  | nil => simp [stripDC]
  | cons b r => simp [stripDC]

theorem hasDC_cons (a : Char) (r : Str) :
    hasDC (a :: r) = (decide (a = ':' ∧ r.head? = some ':') || hasDC r) := by
  rw [hasDC, stripDC_cons]
  split <;> simp [*]

theorem hasDC_append (s t : Str) :
    hasDC (s ++ t) = (hasDC s || hasDC t || decide (s.getLast? = some ':' ∧ t.head? = some ':')) := by
  induction s with
  | nil => simp [hasDC]
  | cons a s ih =>
    rw [List.cons_append, hasDC_cons, hasDC_cons, ih]
    cases s with
    | nil =>
      simp [hasDC]
      cases hasDC t <;> simp
    | cons b s => simp [List.getLast?_cons_cons, Bool.or_assoc]

theorem hasDC_of_not_mem {s : Str} (h : ':' ∉ s) : hasDC s = false := by
  induction s with
  | nil => rfl
  | cons a s ih =>
    have ha : a ≠ ':' := fun e => h (by simp [e])
    rw [hasDC_cons, ih (fun hs => h (List.mem_cons_of_mem _ hs))]
    simp [ha]

theorem hasDC_prefix (c r : Str) : hasDC (c ++ ':' :: ':' :: r) = true := by
  simp [hasDC_append, hasDC_cons]

theorem parseCl_hash (v : Str) : parseCl ('#' :: v) = none := by
  rw [parseCl, stripDC_cons]
  simp

theorem parseCl_here {r : Str} {p : Str × Str × Option Str} (h : parseRest r = some p) :
    parseCl (':' :: ':' :: r) = some ([], p) := by
  rw [parseCl]; simp [stripDC, h]

/-- `t.take 1`: a `::` may start on the last character of `c` and end on the first of `t`, if there is one -/
theorem parseCl_skip : ∀ (c t : Str), '#' ∉ c → hasDC (c ++ t.take 1) = false →
    parseCl (c ++ t) = (parseCl t).map (fun x => (c ++ x.1, x.2))
  | [], t, _, _ => by simp
  | a :: c, t, hc, hd => by
    have ha : a ≠ '#' := fun e => hc (by simp [e])
    rw [List.cons_append, hasDC_cons, Bool.or_eq_false_iff, decide_eq_false_iff_not] at hd
    have hs : stripDC (a :: (c ++ t)) = none := by
      rw [stripDC_cons, if_neg]
      have : (c ++ t).head? = (c ++ t.take 1).head? := by cases c <;> cases t <;> rfl
      rw [this]
      exact hd.1
    rw [List.cons_append, parseCl, hs, Option.bind_none]
    simp only [ha, if_false]
    rw [parseCl_skip c t (fun h => hc (List.mem_cons_of_mem _ h)) hd.2]
    cases parseCl t <;> rfl

theorem parseCl_none {s t : Str} (h : '#' ∉ s) (hs : hasDC s = false) (ht : t = [] ∨ ∃ v, t = '#' :: v) :
    parseCl (s ++ t) = none := by
  rcases ht with rfl | ⟨v, rfl⟩
  · rw [parseCl_skip s [] h (by simpa using hs)]
    rfl
  · rw [parseCl_skip s _ h (by simp [hasDC_append, hs, hasDC, stripDC]), parseCl_hash]
    rfl

/-- `hd` says at once that `c` has no `::` and does not end in `:` -/
theorem parseCl_cluster {c rest : Str} {p : Str × Str × Option Str}
    (hc : '#' ∉ c) (hd : hasDC (c ++ [':']) = false) (hp : parseRest rest = some p) :
    parseCl (c ++ ':' :: ':' :: rest) = some (c, p) := by
  rw [parseCl_skip c (':' :: ':' :: rest) hc hd, parseCl_here hp]
  simp

structure AdmCluster (c : Str) : Prop where
  noHash  : '#' ∉ c
  noDC    : hasDC c = false
  noTrail : c.getLast? ≠ some ':'

structure AdmModule (m : Str) : Prop where
  noColon : ':' ∉ m
  noHash  : '#' ∉ m

structure AdmFunction (f : Str) : Prop where
  noHash : '#' ∉ f
  noDC   : hasDC f = false
  noLead : f.head? ≠ some ':'

/-- the version may contain `:`, `::` and `#`, only no newline -/
structure Adm (c : Option Str) (m f : Str) (v : Option Str) : Prop where
  cluster  : ∀ x, c = some x → AdmCluster x
  module   : AdmModule m
  function : AdmFunction f
  version  : VerOk v

theorem AdmCluster.colon {c : Str} (h : AdmCluster c) : hasDC (c ++ [':']) = false := by
  simp [hasDC_append, h.noDC, h.noTrail, hasDC, stripDC]

theorem Adm.base {c m f v} (h : Adm c m f v) : hasDC (m ++ ':' :: f) = false := by
  have : m.getLast? ≠ some ':' := fun e => h.module.noColon (List.mem_of_getLast? e)
  simp [hasDC_append, hasDC_cons, hasDC_of_not_mem h.module.noColon, h.function.noDC, h.function.noLead, this]

theorem build_none (m f : Str) (v : Option Str) : build none m f v = m ++ ':' :: (f ++ verSuffix v) := by
  simp [build, qualify]

theorem build_some (c : Str) {m f : Str} (v : Option Str) (h : hasDC (m ++ ':' :: f) = false) :
    build (some c) m f v = c ++ ':' :: ':' :: (m ++ ':' :: (f ++ verSuffix v)) := by
  simp [build, qualify, h]

/-- the quirk of `FunctionReference.__init__`: the cluster is dropped from a name that already contains `::` -/
theorem build_some_dropped (c : Str) {m f : Str} (v : Option Str) (h : hasDC (m ++ ':' :: f) = true) :
    build (some c) m f v = m ++ ':' :: (f ++ verSuffix v) := by
  simp [build, qualify, h]

theorem parse_build_core {c : Option Str} {m f : Str} {v : Option Str} (h : Adm c m f v) :
    parse (build c m f v) = some ⟨c, m, f, v⟩ := by
  have hr := parseRest_build h.module.noColon h.module.noHash h.function.noHash h.version
  cases c with
  | none =>
    have hn : parseCl ((m ++ ':' :: f) ++ verSuffix v) = none :=
      parseCl_none (by simp [h.module.noHash, h.function.noHash]) h.base
        (by cases v <;> simp [verSuffix])
    rw [List.append_assoc, List.cons_append] at hn
    simp [build_none, parse, hn, hr]
  | some c =>
    have hc := h.cluster c rfl
    simp [build_some c v h.base, parse, parseCl_cluster hc.noHash hc.colon hr]

theorem realName_eq_build (c : Option Str) {m q : Str} (ver : Str) (h : hasDC (m ++ ':' :: q) = false) :
    realName c m q ver = build c m q (some ver) := by
  cases c with
  | none => simp [realName, build, qnwv, qualify]
  | some c =>
    have := hasDC_prefix c (m ++ ':' :: q)
    simp [realName, build, qnwv, qualify, h, this]

theorem unquote_cons_ne {c : Char} (r : Str) (h : c ≠ '%') : unquote (c :: r) = c :: unquote r := by
  match r with
  | [] => simp [unquote]
  | [a] => simp [unquote]
  | a :: b :: r => simp [unquote, h]

theorem unquote_colon (r : Str) : unquote ('%' :: '3' :: 'A' :: r) = ':' :: unquote r := by
  have h3 : hexv '3' = some 3 := by decide
  have hA : hexv 'A' = some 10 := by decide
  rw [unquote]; simp [h3, hA]

theorem unquote_escape_core {s : Str} : '%' ∉ s → unquote (escape s) = s := by
  fun_induction escape s with
  | case1 => exact fun _ => rfl
  | case2 r ih =>
    intro h
    rw [unquote_colon, ih (fun hr => h (List.mem_cons_of_mem _ hr))]
  | case3 c r hcol ih =>
    intro h
    have hc : c ≠ '%' := fun e => h (e ▸ List.mem_cons_self)
    rw [unquote_cons_ne _ hc, ih (fun hr => h (List.mem_cons_of_mem _ hr))]

theorem escape_no_colon (s : Str) : ':' ∉ escape s := by
  fun_induction escape s with
  | case1 => exact List.not_mem_nil
  | case2 r ih => simp [ih]
  | case3 c r hcol ih => simp [ih, Ne.symm hcol]

theorem escape_append (a b : Str) : escape (a ++ b) = escape a ++ escape b := by
  induction a with
  | nil => rfl
  | cons x a ih => by_cases hx : x = ':' <;> simp [escape, hx, ih]

theorem listed_function_name {qn : Str} (h : '%' ∉ qn) : listedName true (escape qn) = qn := by
  simp [listedName, unquote_escape_core h]

theorem stripLink_append (k : Str) : stripLink (k ++ dotLink) = k := by
  simp [stripLink, dotLink]

/-- what `resolve` needs to know of each outcome; the outcomes it treats alike compute to `True` -/
theorem findFunction_spec {cb : CodeBase} {m f : Str} {v : Option Str} (r : Except FindErr Found)
    (h : findFunction cb m f v = r) :
    match (generalizing := false) r with
    | .ok x =>
      m ≠ [] ∧ m.head? ≠ some '.' ∧ hasLocals f = false ∧
      ∃ attrs, lookupModule cb m = some attrs ∧
        lookupAttr attrs f = some (.mfn x.cluster x.module x.qualname x.version x.params) ∧
        (v = none ∨ v = some x.version)
    | .error .relativeImport => m.head? = some '.'
    | .error _ => True := by
  subst h
  -- `fun_cases` leaves the `match` on `lookupModule cb m` in the goal; each branch computes it with its own hypotheses,
  -- which also turns the conjuncts they decide into `True`
  fun_cases findFunction cb m f v with
  | case1 => trivial
  | case2 _ r => exact rfl
  | case3 _ a r hdot hm => simp only [hm]
  | case4 _ a r hdot attrs hl hm => simp only [hm, hl, if_true]
  | case5 _ a r hdot attrs hl ha hm => simp only [hm, hl, Bool.false_eq_true, if_false, ha]
  | case6 _ a r hdot attrs hl ha hm => simp only [hm, hl, Bool.false_eq_true, if_false, ha]
  | case7 _ a r hdot attrs hl ha hm => simp only [hm, hl, Bool.false_eq_true, if_false, ha]
  | case8 a r hdot attrs hl c m' q ps ver hm ha =>
    simp only [hm, hl, Bool.false_eq_true, if_false, ha, if_true]
    exact ⟨List.cons_ne_nil _ _, fun e => hdot (Option.some.inj e), trivial, attrs, rfl, ha, Or.inr trivial⟩
  | case9 a r hdot attrs hl c m' q ver ps ha v' hv hm => simp only [hm, hl, Bool.false_eq_true, if_false, ha, hv]
  | case10 a r hdot attrs hl c m' q ver ps ha hm =>
    simp only [hm, hl, Bool.false_eq_true, if_false, ha]
    exact ⟨List.cons_ne_nil _ _, fun e => hdot (Option.some.inj e), trivial, attrs, rfl, ha, Or.inl trivial⟩

theorem findFunction_ok_iff {cb : CodeBase} {m f : Str} {v : Option Str} {x : Found} :
    findFunction cb m f v = .ok x ↔
      m ≠ [] ∧ m.head? ≠ some '.' ∧ hasLocals f = false ∧
      ∃ attrs, lookupModule cb m = some attrs ∧
        lookupAttr attrs f = some (.mfn x.cluster x.module x.qualname x.version x.params) ∧
        (v = none ∨ v = some x.version) := by
  refine ⟨findFunction_spec (.ok x), ?_⟩
  rintro ⟨h1, h2, h3, attrs, h4, h5, h6⟩
  cases m with
  | nil => exact absurd rfl h1
  | cons c0 m' =>
    have hdot : c0 ≠ '.' := fun e => h2 (congrArg some e)
    simp only [findFunction, hdot, if_false, h4, h3, Bool.false_eq_true, h5]
    rcases h6 with rfl | rfl
    · rfl
    · simp only [if_true]

theorem findFunction_relative_iff {cb : CodeBase} {m f : Str} {v : Option Str} :
    findFunction cb m f v = .error .relativeImport ↔ m.head? = some '.' := by
  refine ⟨findFunction_spec (.error .relativeImport), fun h => ?_⟩
  cases m with
  | nil => cases h
  | cons c0 m' => rw [findFunction, if_pos (Option.some.inj h)]

theorem findFunction_ok_matches {cb : CodeBase} {m f : Str} {v : Option Str} :
    (∃ x, findFunction cb m f v = .ok x) ↔
      m ≠ [] ∧ m.head? ≠ some '.' ∧ hasLocals f = false ∧ Matches cb m f v := by
  constructor
  · rintro ⟨x, hx⟩
    obtain ⟨h1, h2, h3, attrs, h4, h5, h6⟩ := findFunction_ok_iff.mp hx
    exact ⟨h1, h2, h3, attrs, x.cluster, x.module, x.qualname, x.version, x.params, h4, h5, h6⟩
  · rintro ⟨h1, h2, h3, attrs, c', m', q, ver, ps, h4, h5, h6⟩
    exact ⟨⟨c', m', q, ver, ps⟩, findFunction_ok_iff.mpr ⟨h1, h2, h3, attrs, h4, h5, h6⟩⟩

theorem mapAll_ok (g : StoredCall → Except Err Ref) : ∀ (qs : List StoredCall),
    (∀ q ∈ qs, ∃ r, g q = .ok r) →
    ∃ rs, mapAll g qs = .ok rs ∧ rs.length = qs.length ∧
      ∀ i (hi : i < qs.length) (hj : i < rs.length), g qs[i] = .ok rs[i]
  | [], _ => ⟨[], rfl, rfl, fun i hi => absurd hi (by simp)⟩
  | q :: qs, h => by
    obtain ⟨r, hr⟩ := h q (by simp)
    obtain ⟨rs, h1, h2, h3⟩ := mapAll_ok g qs (fun q' hq' => h q' (by simp [hq']))
    refine ⟨r :: rs, by simp [mapAll, hr, h1], by simp [h2], ?_⟩
    intro i hi hj
    cases i with
    | zero => simpa using hr
    | succ i => simpa using h3 i (by simpa using hi) (by simpa using hj)

theorem mapAll_mem {g : StoredCall → Except Err Ref} {qs : List StoredCall} {rs : List Ref} {q : StoredCall}
    {r : Ref} :
    mapAll g qs = .ok rs → q ∈ qs → g q = .ok r → r ∈ rs := by
  fun_induction mapAll g qs generalizing rs with
  | case1 => exact fun _ hq => nomatch hq
  | case2 q0 qs e h0 => exact fun h => nomatch h
  | case3 q0 qs x h0 e h1 ih => exact fun h => nomatch h
  | case4 q0 qs x h0 xs h1 ih =>
    intro h hq hr
    cases h
    rcases List.mem_cons.mp hq with rfl | hq'
    · rw [hr] at h0
      cases h0
      exact List.mem_cons_self
    · exact List.mem_cons_of_mem _ (ih h1 hq' hr)

theorem parseVer_ok (s : Str) : VerOk (parseVer s) := by
  fun_cases parseVer s with
  | case1 => trivial
  | case2 v => exact not_mem_takeWhile (by decide) _
  | case3 c v hc => trivial

theorem parseRest_parts {s m f : Str} {v : Option Str} :
    parseRest s = some (m, f, v) → ':' ∉ m ∧ '#' ∉ m ∧ '#' ∉ f ∧ VerOk v := by
  fun_cases parseRest s with
  | case1 hd => exact fun h => nomatch h
  | case2 r hd =>
    intro h
    cases h
    exact ⟨not_mem_takeWhile (by decide) _, not_mem_takeWhile (by decide) _, not_mem_takeWhile (by decide) _,
      parseVer_ok _⟩
  | case3 c r hd hc => exact fun h => nomatch h

theorem parseCl_parts {s c : Str} {p : Str × Str × Option Str} :
    parseCl s = some (c, p) → '#' ∉ c ∧ ∃ rest, parseRest rest = some p := by
  fun_induction parseCl s generalizing c p with
  | case1 => exact fun h => nomatch h
  | case2 a r p' hp =>
    intro h
    cases h
    obtain ⟨rest, _, hr⟩ := Option.bind_eq_some_iff.mp hp
    exact ⟨List.not_mem_nil, rest, hr⟩
  | case3 r hp => exact fun h => nomatch h
  | case4 a r hp ha ih =>
    intro h
    obtain ⟨⟨c', p'⟩, hx, he⟩ := Option.map_eq_some_iff.mp h
    cases he
    obtain ⟨hc, hr⟩ := ih hx
    exact ⟨fun hm => (List.mem_cons.mp hm).elim (fun e => ha e.symm) hc, hr⟩

theorem parse_isSome_of_parseRest {s : Str} (h : (parseRest s).isSome = true) : (parse s).isSome = true := by
  fun_cases parse s with
  | case1 c m f v hc => rfl
  | case2 hc m f v hr => rfl
  | case3 hc hr =>
    rw [hr] at h
    exact h

theorem parse_parts {s : Str} {p : Parts} :
    parse s = some p →
    (∀ c, p.cluster = some c → '#' ∉ c) ∧ ':' ∉ p.module ∧ '#' ∉ p.module ∧ '#' ∉ p.function ∧ VerOk p.version := by
  fun_cases parse s with
  | case1 c m f v hc =>
    intro h
    cases h
    obtain ⟨hh, rest, hr⟩ := parseCl_parts hc
    exact ⟨fun c' e => Option.some.inj e ▸ hh, parseRest_parts hr⟩
  | case2 hc m f v hr =>
    intro h
    cases h
    exact ⟨fun c' e => (nomatch e), parseRest_parts hr⟩
  | case3 hc hr => exact fun h => nomatch h

theorem parseRest_isSome_iff (s : Str) :
    (parseRest s).isSome = true ↔ (s.dropWhile isModCh).head? = some ':' := by
  unfold parseRest
  cases s.dropWhile isModCh with
  | nil => simp
  | cons c r => by_cases hc : c = ':' <;> simp [hc]

theorem isModCh_false {x : Char} (h : isModCh x = false) (hx : x ≠ '#') : x = ':' := by
  unfold isModCh at h
  cases hc : (x != ':') with
  | false => simpa using hc
  | true =>
    rw [hc, Bool.true_and] at h
    exact absurd (by simpa using h) hx

theorem parse_isSome_of_colon {a : Str} (r : Str) (h : '#' ∉ a) : (parse (a ++ ':' :: r)).isSome = true := by
  apply parse_isSome_of_parseRest
  rw [parseRest_isSome_iff]
  exact head?_dropWhile_stop a r (by decide) (fun x hx hp => isModCh_false hp (fun e => h (e ▸ hx)))

theorem rebuild_parses {s : Str} {p : Parts} (h : parse s = some p) :
    (parse (build p.cluster p.module p.function p.version)).isSome = true := by
  obtain ⟨h1, _, h3, _, _⟩ := parse_parts h
  -- the rebuilt name is `module ++ ":" ++ …`, possibly behind `cluster ++ "::"`, with no `#` in cluster and module
  have hb := parse_isSome_of_colon (p.function ++ verSuffix p.version) h3
  cases hc : p.cluster with
  | none =>
    rw [build_none]
    exact hb
  | some c =>
    cases hd : hasDC (p.module ++ ':' :: p.function) with
    | true =>
      rw [build_some_dropped c _ hd]
      exact hb
    | false =>
      rw [build_some c _ hd]
      exact parse_isSome_of_colon _ (h1 c hc)

/-- the external stub never fails (`rebuild_parses`), so no second `parse` is left on the right -/
theorem resolve_of_parse {cb : CodeBase} {qn : Str} {p : Parts} (hp : parse qn = some p) (ext : Bool)
    (pn : Option (List Str)) :
    resolve cb qn ext pn =
      if ext then .ok ⟨true, build p.cluster p.module p.function p.version, p.cluster, pn.getD []⟩ else
      match findFunction cb p.module p.function p.version with
      | .ok fd =>
        .ok ⟨false, qualify (qnwv fd.cluster fd.module fd.qualname) p.cluster (some (p.version.getD fd.version)),
             pickCluster p.cluster fd.cluster, fd.params⟩
      | .error .relativeImport => .error .typeError
      | .error _ => .ok ⟨true, build p.cluster p.module p.function p.version, p.cluster, pn.getD []⟩ := by
  obtain ⟨p', hp'⟩ := Option.isSome_iff_exists.mp (rebuild_parses hp)
  simp only [resolve, hp, hp']
  cases ext with
  | true => rfl
  | false =>
    cases findFunction cb p.module p.function p.version with
    | ok fd => rfl
    | error e => cases e <;> rfl

theorem resolve_build (cb : CodeBase) {c : Option Str} {m f : Str} {v : Option Str} (h : Adm c m f v)
    (pn : Option (List Str)) (hm : m.head? ≠ some '.') :
    resolve cb (build c m f v) false pn = .ok
      (match findFunction cb m f v with
       | .ok fd => ⟨false, qualify (qnwv fd.cluster fd.module fd.qualname) c (some (v.getD fd.version)),
                    pickCluster c fd.cluster, fd.params⟩
       | .error _ => ⟨true, build c m f v, c, pn.getD []⟩) := by
  rw [resolve_of_parse (parse_build_core h)]
  cases hf : findFunction cb m f v with
  | ok fd => simp only [Bool.false_eq_true, if_false]
  | error e =>
    cases e with
    | relativeImport => exact absurd (findFunction_relative_iff.mp hf) hm
    | _ => simp only [Bool.false_eq_true, if_false]

theorem resolve_build_relative (cb : CodeBase) (c : Option Str) (m f : Str) (v : Option Str) (h : Adm c m f v)
    (pn : Option (List Str)) (hf : findFunction cb m f v = .error .relativeImport) :
    resolve cb (build c m f v) false pn = .error .typeError := by
  rw [resolve_of_parse (parse_build_core h)]
  simp only [Bool.false_eq_true, if_false, hf]

theorem resolve_build_ext (cb : CodeBase) (c : Option Str) (m f : Str) (v : Option Str) (h : Adm c m f v)
    (pn : Option (List Str)) :
    resolve cb (build c m f v) true pn = .ok ⟨true, build c m f v, c, pn.getD []⟩ := by
  rw [resolve_of_parse (parse_build_core h)]
  rfl

/-- stored names: built from admissible parts, with a module name that is not a relative import (`.x`) -/
def AdmName (q : Str) : Prop :=
  ∃ c m f v, Adm c m f v ∧ m.head? ≠ some '.' ∧ q = build c m f v

/-- a stored call as `encode_fn_reference_with_args` writes it: admissible name, the parameter names
    of the function at storing time, and no more positional arguments than those names -/
def AdmCall (s : StoredCall) : Prop :=
  AdmName s.qn ∧ ∃ ps, s.params = some ps ∧ s.nargs ≤ ps.length

/-- *the version pins the signature*: whatever memento function of the code base the stored name
    resolves to (same module, function and version) still takes at least as many parameters as
    positional arguments were stored. Automatic versions guarantee this (the version is a hash of
    the code, signature included); for explicit version strings it is the user's contract. -/
def SigOk (cb : CodeBase) (s : StoredCall) : Prop :=
  ∀ p fd, parse s.qn = some p → findFunction cb p.module p.function p.version = .ok fd → s.nargs ≤ fd.params.length

def AdmStored (cb : CodeBase) (s : Stored) : Prop :=
  (AdmCall s.own ∧ SigOk cb s.own) ∧ (∀ q ∈ s.invocations, AdmCall q ∧ SigOk cb q) ∧ ∀ q ∈ s.deps, AdmName q.qn

def AdmStore (cb : CodeBase) (st : MetaStore) : Prop := ∀ e ∈ st, AdmStored cb e.2.2

theorem MetaStore.find_mem {st : MetaStore} {qn hh : Str} {s : Stored} : st.find qn hh = some s → (qn, hh, s) ∈ st := by
  fun_induction MetaStore.find st qn hh with
  | case1 => exact fun h => nomatch h
  | case2 q a s0 r qn hh hc =>
    intro h
    cases h
    obtain ⟨rfl, rfl⟩ := hc
    exact List.mem_cons_self
  | case3 q a s0 r qn hh hc ih => exact fun h => List.mem_cons_of_mem _ (ih h)

theorem admName_resolves (cb : CodeBase) {q : Str} (h : AdmName q) (pn : Option (List Str)) :
    ∃ r, resolve cb q false pn = .ok r := by
  obtain ⟨c, m, f, v, ha, hm, rfl⟩ := h
  exact ⟨_, resolve_build cb ha pn hm⟩

theorem decodeCall_ok {cb : CodeBase} {s : StoredCall} {r : Ref} :
    decodeCall cb s = .ok r → resolve cb s.qn false s.params = .ok r := by
  fun_cases decodeCall cb s with
  | case1 e he => exact fun h => nomatch h
  | case2 r' hr hlt => exact fun h => nomatch h
  | case3 r' hr hge => exact fun h => Except.ok.inj h ▸ hr

/-- the stored positional arguments bind to the stored names if the reference is external, to the current signature
    (`SigOk`) if it is bound -/
theorem call_decodes {cb : CodeBase} {s : StoredCall} (h : AdmCall s) (hs : SigOk cb s) :
    ∃ r, decodeCall cb s = .ok r := by
  obtain ⟨⟨c, m, f, v, ha, hm, hq⟩, ps, hps, hn⟩ := h
  have hr := resolve_build cb ha s.params hm
  unfold decodeCall decodeRef
  rw [hq, hr]
  refine ⟨_, if_neg (Nat.not_lt.mpr ?_)⟩
  cases hf : findFunction cb m f v with
  | ok fd => exact hs ⟨c, m, f, v⟩ fd (by rw [hq]; exact parse_build_core ha) hf
  | error e => simpa [hps] using hn

theorem mapAll_decodeRef_names (cb : CodeBase) (qs : List StoredCall) (h : ∀ q ∈ qs, AdmName q.qn) :
    ∃ rs, mapAll (decodeRef cb) qs = .ok rs ∧ rs.length = qs.length := by
  obtain ⟨rs, h1, h2, _⟩ := mapAll_ok (decodeRef cb) qs (fun q hq => admName_resolves cb (h q hq) q.params)
  exact ⟨rs, h1, h2⟩

end Memento.QName
