import MementoModel.Lemmas.RunnerLemmas

/-! What every evaluation guarantees about the state it leaves (`Ext`), and with it the loop of a batch without its
pre-check (`seqLocal`). -/
namespace Memento.Runner

def Keyed (s : St) : Prop := ∀ k r, s.get k = some r → r.key = k

/-- an over-approximation of "an evaluation leads from `s` to `s'`" (`frame`: only entries of executed keys change) -/
structure Ext (s s' : St) : Prop where
  enabled : s'.enabled = s.enabled
  grows : ∀ k r, s.get k = some r → s'.get k = some r
  frame : ∃ t, s'.trace = s.trace ++ t ∧ ∀ k, k ∉ t → s'.get k = s.get k
  keyed : Keyed s → Keyed s'

theorem Ext.refl (s : St) : Ext s s :=
  ⟨rfl, fun _ _ h => h, ⟨[], by simp, fun _ _ => rfl⟩, id⟩

theorem Ext.trans {a b c : St} (h1 : Ext a b) (h2 : Ext b c) : Ext a c := by
  obtain ⟨t1, ht1, hf1⟩ := h1.frame
  obtain ⟨t2, ht2, hf2⟩ := h2.frame
  refine ⟨h2.enabled.trans h1.enabled, fun k r h => h2.grows k r (h1.grows k r h),
    ⟨t1 ++ t2, by rw [ht2, ht1, List.append_assoc], fun k hk => ?_⟩, fun h => h2.keyed (h1.keyed h)⟩
  simp only [List.mem_append, not_or] at hk
  rw [hf2 k hk.2, hf1 k hk.1]

theorem Ext.pushTrace (s : St) (key : Key) : Ext s { s with trace := s.trace ++ [key] } :=
  ⟨rfl, fun _ _ h => h, ⟨[key], rfl, fun _ _ => rfl⟩, id⟩

theorem storeAfter_cases (s1 : St) (key : Key) (o : Outcome) (r : Rec) :
    storeAfter s1 key o r = s1 ∨ (isNonMemo o = false ∧ s1.get key = none ∧ storeAfter s1 key o r = s1.put key r) := by
  unfold storeAfter
  cases hn : isNonMemo o
  · cases hg : s1.get key
    · right; simp
    · left; simp
  · left; simp

@[simp] theorem storeAfter_trace (s1 : St) (key : Key) (o : Outcome) (r : Rec) :
    (storeAfter s1 key o r).trace = s1.trace := by
  rcases storeAfter_cases s1 key o r with h | ⟨_, _, h⟩
  · rw [h]
  · rw [h, St.put_trace]

@[simp] theorem storeAfter_enabled (s1 : St) (key : Key) (o : Outcome) (r : Rec) :
    (storeAfter s1 key o r).enabled = s1.enabled := by
  rcases storeAfter_cases s1 key o r with h | ⟨_, _, h⟩
  · rw [h]
  · rw [h, St.put_enabled]

theorem isNonMemo_eq_false {o : Outcome} (h : ∀ m, o ≠ .exc clsNonMemoized m) : isNonMemo o = false := by
  cases o with
  | val v => rfl
  | exc c m =>
    simp only [isNonMemo, beq_eq_false_iff_ne]
    intro hc
    exact h m (by rw [hc])

theorem storeAfter_nonMemo {s1 : St} {key : Key} {o : Outcome} {r : Rec} (hn : isNonMemo o = true) :
    storeAfter s1 key o r = s1 := by
  unfold storeAfter; rw [if_pos hn]

theorem storeAfter_get_self {s1 : St} {key : Key} {o : Outcome} {r : Rec} (hn : isNonMemo o = false)
    (he : s1.enabled = true) (hg : s1.get key = none) : (storeAfter s1 key o r).get key = some r := by
  unfold storeAfter
  rw [hn, hg]
  exact St.get_put_self he key r

theorem storeAfter_get_isSome {s1 : St} {key : Key} {o : Outcome} {r : Rec} (hn : isNonMemo o = false)
    (he : s1.enabled = true) : ((storeAfter s1 key o r).get key).isSome := by
  cases hg : s1.get key with
  | none => rw [storeAfter_get_self hn he hg]; rfl
  | some r0 =>
    have : storeAfter s1 key o r = s1 := by unfold storeAfter; simp [hn, hg]
    rw [this, hg]; rfl

theorem Ext.local {s s1 : St} {key : Key} {r : Rec} (o : Outcome) (hr : r.key = key)
    (h : Ext { s with trace := s.trace ++ [key] } s1) :
    Ext s (storeAfter s1 key o r) ∧
    ∃ rest, (storeAfter s1 key o r).trace = s.trace ++ key :: rest ∧ ∀ k, k ∉ rest → s1.get k = s.get k := by
  obtain ⟨t, ht, hf⟩ := h.frame
  have ht' : s1.trace = s.trace ++ key :: t := by rw [ht]; simp
  refine ⟨?_, t, by rw [storeAfter_trace, ht'], fun k hk => by rw [hf k hk]; rfl⟩
  rcases storeAfter_cases s1 key o r with h1 | ⟨_, hg, h1⟩
  · rw [h1]; exact (Ext.pushTrace s key).trans h
  · rw [h1]
    refine ⟨by rw [St.put_enabled]; exact h.enabled, fun k x hx => ?_, ⟨key :: t, by rw [St.put_trace, ht'], fun k hk => ?_⟩, fun hk k x hx => ?_⟩
    · have hx1 : s1.get k = some x := h.grows k x hx
      have hne : k ≠ key := by intro e; rw [e, hg] at hx1; cases hx1
      rw [St.get_put_ne s1 hne]; exact hx1
    · simp only [List.mem_cons, not_or] at hk
      rw [St.get_put_ne s1 hk.1, hf k hk.2]; rfl
    · rcases St.get_put_cases hx with ⟨e1, e2, _⟩ | ⟨_, hx'⟩
      · rw [e1, e2]; exact hr
      · exact h.keyed hk k x hx'

def CalleeExt (callee : St → Frame → Fn → List Val → CtxSpec → Flags → Option BatchResult) : Prop :=
  ∀ {s fr fn args ctx fl s1 res recs}, callee s fr fn args ctx fl = some (s1, res, recs) → Ext s s1

-- strict-implicit: it is passed on as a hypothesis and must not be instantiated on sight
def ExecExt (exec : Body → St → Frame → Option (St × Outcome × Frame)) : Prop :=
  ∀ ⦃b s fr s1 o fr1⦄, exec b s fr = some (s1, o, fr1) → Ext s s1

theorem execBody_ext {callee} (hc : CalleeExt callee) : ExecExt (execBody callee) := by
  intro b s fr s1 o fr1 h
  fun_induction execBody callee b s fr
  case case1 =>  -- `.ret`
    cases h
    exact Ext.refl _
  case case2 ih => exact ih h  -- `.resource`
  case case3 | case6 | case7 => cases h  -- the nested evaluation failed, or a `.call` got no single outcome
  case case4 hc1 ih | case5 hc1 ih | case8 hc1 ih =>  -- `.call` (raised / returned), `.batch`
    exact (hc hc1).trans (ih h)

theorem runLocal_ext {P : Prog} {exec} (he : ExecExt exec) {s s2 : St} {key : Key} {fl : Flags} {o : Outcome} {r : Rec}
    (h : runLocal P exec s key fl = some (s2, o, r)) : Ext s s2 ∧ (Keyed s → r.key = key) := by
  cases hg : s.get key with
  | some r0 =>
    rw [runLocal_hit hg] at h; cases h
    exact ⟨Ext.refl _, fun hk => hk _ _ hg⟩
  | none =>
    obtain ⟨s1, ob, fr1, hx, hr, _, hs⟩ := runLocal_miss_inv hg h
    subst hs
    have hk : r.key = key := by rw [hr]; rfl
    exact ⟨(Ext.local ob hk (he hx)).1, fun _ => hk⟩

/-- `runLocal` over the keys in order -/
def seqLocal (P : Prog) (exec : Body → St → Frame → Option (St × Outcome × Frame)) (fl : Flags) :
    St → List Key → Option (St × List Outcome × List Rec)
  | s, [] => some (s, [], [])
  | s, key :: keys =>
    match runLocal P exec s key fl with
    | none => none
    | some (s1, o, r) =>
      match seqLocal P exec fl s1 keys with
      | none => none
      | some (s', os, rs) => some (s', o :: os, r :: rs)

theorem seqLocal_ext {P : Prog} {exec} (he : ExecExt exec) {fl : Flags} {keys : List Key} {s s' : St}
    {os : List Outcome} {rs : List Rec} (h : seqLocal P exec fl s keys = some (s', os, rs)) :
    Ext s s' ∧ (Keyed s → rs.map (·.key) = keys) := by
  fun_induction seqLocal P exec fl s keys generalizing os rs
  case case1 =>  -- `[]`
    cases h
    exact ⟨Ext.refl _, fun _ => rfl⟩
  case case2 | case3 => cases h  -- `runLocal` or the rest failed
  case case4 hl _ _ _ hb ih =>  -- `key :: keys`
    cases h
    obtain ⟨h1, hk1⟩ := runLocal_ext he hl
    obtain ⟨h2, hk2⟩ := ih hb
    exact ⟨h1.trans h2, fun hk => by rw [List.map_cons, hk1 hk, hk2 (h1.keyed hk)]⟩

/-- the bulk pre-check is an optimisation only: stores only grow, so what a pre-check on an earlier store `s0`
    found is found again by `runLocal`'s own re-check -/
theorem batchLoop_pre {P : Prog} {exec} (he : ExecExt exec) {fl : Flags} (s0 : St) :
    ∀ (keys : List Key) (s : St), (∀ k r, s0.get k = some r → s.get k = some r) →
      batchLoop P exec fl s (keys.map fun k => (k, s0.get k)) = seqLocal P exec fl s keys
  | [], _, _ => rfl
  | key :: keys, s, hg => by
    rw [seqLocal, List.map_cons]
    cases h0 : s0.get key with
    | some r => rw [batchLoop, runLocal_hit (hg _ _ h0), batchLoop_pre he s0 keys s hg]; rfl
    | none =>
      rw [batchLoop]
      cases hl : runLocal P exec s key fl with
      | none => rfl
      | some x =>
        obtain ⟨s1, o, r⟩ := x
        dsimp only
        rw [batchLoop_pre he s0 keys s1 fun k r h => (runLocal_ext he hl).1.grows k r (hg k r h)]; rfl

theorem runBatchWith_nf {P : Prog} {exec} (he : ExecExt exec) (s : St) (caller : Option Frame) (fn : Fn)
    (args : List Val) (ctx : CtxSpec) (fl : Flags) :
    runBatchWith P exec s caller fn args ctx fl =
      if undeclared P caller fn then some (s, .error (.exc clsUndeclared 0), [])
      else if prevented caller then some (s, .error (.exc clsRuntime 0), [])
      else
        match seqLocal P exec fl s (args.map fun a => ⟨fn, a, effCtx caller ctx⟩) with
        | none => none
        | some (s', os, rs) => some (s', .ok os, rs) := by
  rw [runBatchWith_eq, ← batchLoop_pre he s _ s fun _ _ h => h, List.map_map]
  rfl

theorem runBatchWith_inv {P : Prog} {exec} (he : ExecExt exec) {s s' : St} {caller : Option Frame} {fn : Fn}
    {args : List Val} {ctx : CtxSpec} {fl : Flags} {res} {recs : List Rec}
    (h : runBatchWith P exec s caller fn args ctx fl = some (s', res, recs)) :
    (undeclared P caller fn = true ∧ s' = s ∧ res = .error (.exc clsUndeclared 0) ∧ recs = []) ∨
    (undeclared P caller fn = false ∧ prevented caller = true ∧ s' = s ∧ res = .error (.exc clsRuntime 0) ∧ recs = []) ∨
    (undeclared P caller fn = false ∧ prevented caller = false ∧ ∃ os, res = .ok os ∧
      seqLocal P exec fl s (args.map fun a => ⟨fn, a, effCtx caller ctx⟩) = some (s', os, recs)) := by
  rw [runBatchWith_nf he] at h
  split at h
  · rename_i hu
    cases h
    exact .inl ⟨hu, rfl, rfl, rfl⟩
  · rename_i hu
    split at h
    · rename_i hp
      cases h
      exact .inr (.inl ⟨Bool.eq_false_iff.2 hu, hp, rfl, rfl, rfl⟩)
    · rename_i hp
      split at h
      · cases h
      · rename_i hb
        cases h
        exact .inr (.inr ⟨Bool.eq_false_iff.2 hu, Bool.eq_false_iff.2 hp, _, rfl, hb⟩)

theorem run_ext (P : Prog) : ∀ (n : Nat) {s s' : St} {caller : Option Frame} {fn : Fn} {args : List Val}
    {ctx : CtxSpec} {fl : Flags} {res} {recs : List Rec},
    run P n s caller fn args ctx fl = some (s', res, recs) → Ext s s' := by
  intro n
  induction n with
  | zero => intros; contradiction  -- `run P 0 … = none`
  | succ n ih =>
    intro s s' caller fn args ctx fl res recs h
    rw [run_succ] at h
    have he : ExecExt (E P n) := execBody_ext fun hc => ih hc
    rcases runBatchWith_inv he h with ⟨_, rfl, _⟩ | ⟨_, _, rfl, _⟩ | ⟨_, _, os, _, hb⟩
    · exact Ext.refl _
    · exact Ext.refl _
    · exact (seqLocal_ext he hb).1

theorem E_ext (P : Prog) (n : Nat) : ExecExt (E P n) :=
  execBody_ext (fun hc => run_ext P n hc)

def Dis (s : St) : Prop := s.enabled = false

theorem storeAfter_dis {s1 : St} (h : Dis s1) (key : Key) (o : Outcome) (r : Rec) : storeAfter s1 key o r = s1 := by
  rcases storeAfter_cases s1 key o r with h1 | ⟨_, _, h1⟩
  · exact h1
  · rw [h1, St.put_disabled h]

end Memento.Runner
