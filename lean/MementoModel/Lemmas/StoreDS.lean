import MementoModel.Lemmas.AList
import MementoModel.Lemmas.StoreInv

/-! The versioned object store: each primitive by the lookups afterwards, frames for the backend's read functions,
    `DSWF` preserved. -/
namespace Memento.Store
open Memento

namespace DS

theorem alookup_links_output (d : DS) (k : K) (c : Content) (k' : K) :
    alookup (d.output k c).1.links k' = if k' = k then some d.next else alookup d.links k' :=
  alookup_aset d.links k d.next k'

theorem alookup_objs_output (d : DS) (k : K) (c : Content) (kv : K × Ver) :
    alookup (d.output k c).1.objs kv = if (k, d.next) = kv then some c else alookup d.objs kv :=
  alookup_cons _ _ _

theorem alookup_links_deleteLink (d : DS) (k k' : K) :
    alookup (d.deleteLink k).links k' = if k' = k then none else alookup d.links k' :=
  alookup_adel d.links k k'

theorem alookup_links_deleteWhere (d : DS) (sel : K → Bool) (k : K) :
    alookup (d.deleteWhere sel).links k = if sel k then none else alookup d.links k := by
  show alookup (d.links.filter (fun p => !(sel p.1))) k = _
  rw [alookup_filter d.links (fun k => !(sel k)) k]
  cases sel k <;> simp

theorem alookup_objs_deleteWhere (d : DS) (sel : K → Bool) (k : K) (v : Ver) :
    alookup (d.deleteWhere sel).objs (k, v) = if sel k then none else alookup d.objs (k, v) := by
  show alookup (d.objs.filter (fun p => !(sel p.1.1))) (k, v) = _
  rw [alookup_filter d.objs (fun kv => !(sel kv.1)) (k, v)]
  cases sel k <;> simp

theorem links_deleteWhere_some {d : DS} {sel : K → Bool} {k : K} {v : Ver} :
    alookup (d.deleteWhere sel).links k = some v ↔ sel k = false ∧ alookup d.links k = some v := by
  rw [alookup_links_deleteWhere]
  cases sel k <;> simp

theorem objs_deleteWhere_some {d : DS} {sel : K → Bool} {k : K} {v : Ver} {c : Content} :
    alookup (d.deleteWhere sel).objs (k, v) = some c ↔ sel k = false ∧ alookup d.objs (k, v) = some c := by
  rw [alookup_objs_deleteWhere]
  cases sel k <;> simp

theorem existsNV_eq (d : DS) (k : K) : d.existsNV k = (d.inputNV k).isSome := by
  unfold DS.existsNV DS.inputNV
  cases alookup d.links k <;> rfl

theorem inputNV_eq_some {d : DS} {k : K} {c : Content} :
    d.inputNV k = some c ↔ ∃ v, alookup d.links k = some v ∧ alookup d.objs (k, v) = some c := by
  unfold DS.inputNV
  cases alookup d.links k <;> simp

theorem inputNV_none_of_link {d : DS} {k : K} (h : alookup d.links k = none) : d.inputNV k = none := by
  unfold DS.inputNV; rw [h]

theorem inputNV_congr {d d' : DS} {k : K} (hl : alookup d'.links k = alookup d.links k)
    (ho : ∀ v, alookup d.links k = some v → alookup d'.objs (k, v) = alookup d.objs (k, v)) :
    d'.inputNV k = d.inputNV k := by
  unfold DS.inputNV
  rw [hl]
  cases h : alookup d.links k with
  | none => rfl
  | some v => exact ho v h

theorem existsNV_iff {d : DS} {k : K} :
    d.existsNV k = true ↔ ∃ v c, alookup d.links k = some v ∧ alookup d.objs (k, v) = some c := by
  rw [existsNV_eq, Option.isSome_iff_exists]
  simp only [inputNV_eq_some]
  exact exists_comm

theorem inputNV_output (d : DS) (k : K) (c : Content) (k' : K) :
    (d.output k c).1.inputNV k' = if k' = k then some c else d.inputNV k' := by
  by_cases e : k' = k
  · rw [if_pos e, inputNV_eq_some]
    exact ⟨d.next, by rw [alookup_links_output, if_pos e], by rw [e, alookup_objs_output, if_pos rfl]⟩
  · rw [if_neg e]
    refine inputNV_congr (by rw [alookup_links_output, if_neg e]) fun v _ => ?_
    rw [alookup_objs_output, if_neg]
    intro e2; cases e2; exact e rfl

theorem existsNV_output {d : DS} {k k' : K} {c : Content} (h : k = k' ∨ d.existsNV k = true) :
    (d.output k' c).1.existsNV k = true := by
  rw [existsNV_eq, inputNV_output]
  split
  · rfl
  · rename_i e; rw [← existsNV_eq]; exact h.resolve_left e

theorem inputNV_deleteWhere (d : DS) (sel : K → Bool) (k : K) :
    (d.deleteWhere sel).inputNV k = if sel k then none else d.inputNV k := by
  cases hs : sel k with
  | true => exact inputNV_none_of_link (by rw [alookup_links_deleteWhere, hs]; rfl)
  | false =>
    exact inputNV_congr (by rw [alookup_links_deleteWhere, hs]; rfl)
      fun v _ => by rw [alookup_objs_deleteWhere, hs]; rfl

theorem inputV_deleteWhere {d : DS} {sel : K → Bool} {k : K} {v : Ver} (hk : sel k = false) :
    (d.deleteWhere sel).inputV k v = d.inputV k v := by
  unfold DS.inputV
  rw [alookup_objs_deleteWhere, hk]; simp

end DS

def ObjsExt (d d' : DS) : Prop := ∀ kv c, alookup d.objs kv = some c → alookup d'.objs kv = some c

theorem ObjsExt.refl (d : DS) : ObjsExt d d := fun _ _ h => h

theorem ObjsExt.trans {d d' d'' : DS} (h1 : ObjsExt d d') (h2 : ObjsExt d' d'') : ObjsExt d d'' :=
  fun kv c h => h2 kv c (h1 kv c h)

theorem DSWF.link_lt {d : DS} (h : DSWF d) {k : K} {v : Ver} (hl : alookup d.links k = some v) :
    v < d.next := h.linkFresh _ (alookup_mem hl)

theorem ObjsExt.output {d : DS} (h : DSWF d) (k : K) (c : Content) : ObjsExt d (d.output k c).1 := by
  intro kv c' ho
  rw [DS.alookup_objs_output]
  have := h.objFresh _ (alookup_mem ho)
  have hne : ¬ (k, d.next) = kv := by intro e; rw [← e] at this; simp at this
  rw [if_neg hne]; exact ho

/-- the field `mementoOk` that `DSWF` and `CrashWF` share; the frame lemmas of the read path rest on it alone -/
def MementoOk (d : DS) : Prop :=
  ∀ fn arg v, alookup d.links (.memento fn arg) = some v →
    ∃ m ck, alookup d.objs (.memento fn arg, v) = some (.mrec m ck) ∧ CkOk d ck

theorem DSWF.mOk {d : DS} (h : DSWF d) : MementoOk d := h.mementoOk

namespace FsBackend

theorem readMemento_eq {d : DS} {fn : Fn} {arg : Arg} {m : Nat} {ck : Option (K × Ver)} :
    readMemento d fn arg = some (m, ck) ↔
      ∃ v, alookup d.links (.memento fn arg) = some v ∧
        alookup d.objs (.memento fn arg, v) = some (.mrec m ck) := by
  rw [← DS.inputNV_eq_some]
  unfold readMemento
  cases d.inputNV (.memento fn arg) with
  | none => simp
  | some c => cases c <;> simp

theorem readMemento_none_of_link {d : DS} {fn : Fn} {arg : Arg}
    (h : alookup d.links (.memento fn arg) = none) : readMemento d fn arg = none := by
  unfold readMemento; rw [DS.inputNV_none_of_link h]

theorem readMemento_output (d : DS) (k : K) (c : Content) (fn : Fn) (arg : Arg) :
    readMemento (d.output k c).1 fn arg =
      if K.memento fn arg = k then (match c with | .mrec m ck => some (m, ck) | _ => none)
      else readMemento d fn arg := by
  unfold readMemento
  rw [DS.inputNV_output]
  by_cases e : K.memento fn arg = k
  · rw [if_pos e, if_pos e]; cases c <;> rfl
  · rw [if_neg e, if_neg e]

theorem readMemento_deleteWhere (d : DS) (sel : K → Bool) (fn : Fn) (arg : Arg) :
    readMemento (d.deleteWhere sel) fn arg = if sel (.memento fn arg) then none else readMemento d fn arg := by
  unfold readMemento
  rw [DS.inputNV_deleteWhere]
  cases sel (.memento fn arg) <;> rfl

theorem loadResult_blob {d : DS} {k : K} {v : Ver} {b : Bytes} (ho : alookup d.objs (k, v) = some (.blob b)) :
    loadResult d (some (k, v)) = some (some b) := by
  simp only [loadResult, DS.inputV, ho]

theorem loadResult_of_ckOk {d : DS} {ck : Option (K × Ver)} (h : CkOk d ck) :
    ∃ val, loadResult d ck = some val := by
  rcases h with rfl | ⟨k, ver, b, rfl, _, ho⟩
  · exact ⟨none, rfl⟩
  · exact ⟨some b, loadResult_blob ho⟩

theorem storeEntry_eq (d : DS) (fn : Fn) (arg : Arg) :
    storeEntry d fn arg = (readMemento d fn arg).map fun p => (p.1, p.2, (loadResult d p.2).getD none) := by
  unfold storeEntry
  cases readMemento d fn arg <;> rfl

theorem storeEntry_eq_some {d : DS} {fn arg m ck vb} :
    storeEntry d fn arg = some (m, ck, vb) ↔
      readMemento d fn arg = some (m, ck) ∧ vb = (loadResult d ck).getD none := by
  rw [storeEntry_eq, Option.map_eq_some_iff]
  constructor
  · rintro ⟨⟨m', ck'⟩, hr, e⟩
    cases e
    exact ⟨hr, rfl⟩
  · rintro ⟨hr, rfl⟩
    exact ⟨_, hr, rfl⟩

theorem storeEntry_of_read {d : DS} {fn arg m ck} (hr : readMemento d fn arg = some (m, ck)) :
    storeEntry d fn arg = some (m, ck, (loadResult d ck).getD none) :=
  storeEntry_eq_some.mpr ⟨hr, rfl⟩

theorem storeEntry_congr {d d' : DS} {fn arg} (hr : readMemento d' fn arg = readMemento d fn arg)
    (hl : ∀ m ck, readMemento d fn arg = some (m, ck) → loadResult d' ck = loadResult d ck) :
    storeEntry d' fn arg = storeEntry d fn arg := by
  rw [storeEntry_eq, storeEntry_eq, hr]
  exact Option.map_congr fun p hp => by rw [hl p.1 p.2 hp]

end FsBackend

theorem CkOk.transfer {d d' : DS} {ck} (h : CkOk d ck)
    (ho : ∀ k v b, k.isMetaArea = false → alookup d.objs (k, v) = some (.blob b) →
      alookup d'.objs (k, v) = some (.blob b)) :
    CkOk d' ck ∧ FsBackend.loadResult d' ck = FsBackend.loadResult d ck := by
  rcases h with rfl | ⟨k, ver, b, rfl, hk, hb⟩
  · exact ⟨Or.inl rfl, rfl⟩
  · have hb' := ho k ver b hk hb
    exact ⟨Or.inr ⟨k, ver, b, rfl, hk, hb'⟩, by rw [FsBackend.loadResult_blob hb, FsBackend.loadResult_blob hb']⟩

theorem CkOk.ext {d d' : DS} {ck} (h : CkOk d ck) (ho : ObjsExt d d') :
    CkOk d' ck ∧ FsBackend.loadResult d' ck = FsBackend.loadResult d ck :=
  h.transfer fun _ _ _ _ hb => ho _ _ hb

theorem MementoOk.readMemento_of_link {d : DS} (h : MementoOk d) {fn : Fn} {arg : Arg} {v : Ver}
    (hl : alookup d.links (.memento fn arg) = some v) :
    ∃ m ck, FsBackend.readMemento d fn arg = some (m, ck) ∧ CkOk d ck := by
  obtain ⟨m, ck, ho, hck⟩ := h fn arg v hl
  exact ⟨m, ck, FsBackend.readMemento_eq.mpr ⟨v, hl, ho⟩, hck⟩

theorem MementoOk.ckOk_of_read {d : DS} (h : MementoOk d) {fn : Fn} {arg : Arg} {m : Nat} {ck}
    (hr : FsBackend.readMemento d fn arg = some (m, ck)) : CkOk d ck := by
  obtain ⟨v, hl, ho⟩ := FsBackend.readMemento_eq.mp hr
  obtain ⟨m', ck', ho', hck⟩ := h fn arg v hl
  rw [ho] at ho'; cases ho'; exact hck

theorem MementoOk.existsNV_memento {d : DS} (h : MementoOk d) (fn : Fn) (arg : Arg) :
    d.existsNV (.memento fn arg) = (FsBackend.readMemento d fn arg).isSome := by
  rw [DS.existsNV_eq]
  cases hl : alookup d.links (.memento fn arg) with
  | none => rw [FsBackend.readMemento_none_of_link hl, DS.inputNV_none_of_link hl]; rfl
  | some v =>
    obtain ⟨m, ck, ho, _⟩ := h fn arg v hl
    rw [FsBackend.readMemento_eq.mpr ⟨v, hl, ho⟩, DS.inputNV_eq_some.mpr ⟨v, hl, ho⟩]
    rfl

theorem MementoOk.readMemento_frame {d d' : DS} (h : MementoOk d) (fn : Fn) (arg : Arg)
    (hl : alookup d'.links (.memento fn arg) = alookup d.links (.memento fn arg))
    (ho : ObjsExt d d') : FsBackend.readMemento d' fn arg = FsBackend.readMemento d fn arg := by
  have hi : d'.inputNV (.memento fn arg) = d.inputNV (.memento fn arg) := DS.inputNV_congr hl fun v hv => by
    obtain ⟨m, ck, hm, _⟩ := h fn arg v hv
    rw [hm, ho _ _ hm]
  unfold FsBackend.readMemento
  rw [hi]

theorem MementoOk.storeEntry_frame {d d' : DS} (h : MementoOk d) (fn : Fn) (arg : Arg)
    (hl : alookup d'.links (.memento fn arg) = alookup d.links (.memento fn arg))
    (ho : ObjsExt d d') : FsBackend.storeEntry d' fn arg = FsBackend.storeEntry d fn arg :=
  FsBackend.storeEntry_congr (h.readMemento_frame fn arg hl ho) fun _ _ hr => ((h.ckOk_of_read hr).ext ho).2

theorem FsBackend.storeEntry_output {d : DS} (h : DSWF d) {k0 : K} {c : Content} {fn : Fn} {arg : Arg}
    (hk : K.memento fn arg ≠ k0) : storeEntry (d.output k0 c).1 fn arg = storeEntry d fn arg :=
  h.mOk.storeEntry_frame fn arg (by rw [DS.alookup_links_output, if_neg hk]) (ObjsExt.output h k0 c)

/-- `ck` is the content key under which `d` holds the result `val` (`none`: the null result) -/
structure CkHolds (d : DS) (ck : Option (K × Ver)) (val : Option Bytes) : Prop where
  ckOk : CkOk d ck
  load : FsBackend.loadResult d ck = some val

theorem CkHolds.null (d : DS) : CkHolds d none none := ⟨Or.inl rfl, rfl⟩

theorem CkHolds.blob {d : DS} {k : K} {v : Ver} {b : Bytes} (hk : k.isMetaArea = false)
    (ho : alookup d.objs (k, v) = some (.blob b)) : CkHolds d (some (k, v)) (some b) :=
  ⟨Or.inr ⟨k, v, b, rfl, hk, ho⟩, FsBackend.loadResult_blob ho⟩

theorem DSWF.empty : DSWF DS.empty := by
  constructor <;> simp [DS.empty, alookup_nil]

theorem DSWF.output {d : DS} (h : DSWF d) (k : K) (c : Content)
    (hmem : ∀ fn arg, k = .memento fn arg → ∃ m ck, c = .mrec m ck ∧ CkOk d ck)
    (hmeta : ∀ fn arg mk wd, k = .mdat fn arg mk wd →
      (wd = false → ∃ b, c = .raw b) ∧ (alookup d.links (.memento fn arg)).isSome)
    (hcontent : ∀ hh, k = .content hh → c = .blob hh ∧ ∀ v, alookup d.objs (.content hh, v) = none)
    (hblob : ∀ b, c = .blob b → b + 1 < 1000000) :
    DSWF (d.output k c).1 := by
  have hext := ObjsExt.output h k c
  constructor
  case objFresh =>
    intro p hp
    show p.1.2 < d.next + 1
    rcases List.mem_cons.mp hp with rfl | hp
    · exact Nat.lt_succ_self _
    · exact Nat.lt_succ_of_lt (h.objFresh p hp)
  case linkFresh =>
    intro p hp
    show p.2 < d.next + 1
    rcases mem_aset hp with rfl | ⟨hp, _⟩
    · exact Nat.lt_succ_self _
    · exact Nat.lt_succ_of_lt (h.linkFresh p hp)
  case objNodup =>
    show (List.map (·.1) (((k, d.next), c) :: d.objs)).Nodup
    rw [List.map_cons, List.nodup_cons]
    refine ⟨?_, h.objNodup⟩
    intro hx
    obtain ⟨p, hp, hpe⟩ := List.mem_map.mp hx
    have := h.objFresh p hp
    rw [hpe] at this
    exact Nat.lt_irrefl _ this
  case linkNodup =>
    exact keys_aset_nodup _ _ h.linkNodup
  case mementoOk =>
    intro fn arg v hl
    rw [DS.alookup_links_output] at hl
    split at hl
    · rename_i e
      cases hl
      obtain ⟨m, ck, rfl, hck⟩ := hmem fn arg e.symm
      exact ⟨m, ck, by rw [DS.alookup_objs_output, e, if_pos rfl], (hck.ext hext).1⟩
    · obtain ⟨m, ck, ho, hck⟩ := h.mementoOk fn arg v hl
      exact ⟨m, ck, hext _ _ ho, (hck.ext hext).1⟩
  case metaOk =>
    intro fn arg mk v hl
    rw [DS.alookup_links_output] at hl
    split at hl
    · rename_i e
      cases hl
      obtain ⟨b, rfl⟩ := (hmeta fn arg mk false e.symm).1 rfl
      exact ⟨b, by rw [DS.alookup_objs_output, e, if_pos rfl]⟩
    · obtain ⟨b, ho⟩ := h.metaOk fn arg mk v hl
      exact ⟨b, hext _ _ ho⟩
  case metaHasMemento =>
    intro fn arg mk wd v hl
    rw [DS.alookup_links_output] at hl ⊢
    have hlinked : (alookup d.links (.memento fn arg)).isSome = true := by
      by_cases e : K.mdat fn arg mk wd = k
      · exact (hmeta fn arg mk wd e.symm).2
      · rw [if_neg e] at hl; exact h.metaHasMemento fn arg mk wd v hl
    split
    · rfl
    · exact hlinked
  case contentOk =>
    intro hh v c' ho
    rw [DS.alookup_objs_output] at ho
    split at ho
    · rename_i e
      cases ho; cases e
      exact (hcontent hh rfl).1
    · exact h.contentOk hh v c' ho
  case contentLinked =>
    intro hh v ho
    rw [DS.alookup_objs_output] at ho
    rw [DS.alookup_links_output]
    by_cases e : (k, d.next) = (K.content hh, v)
    · cases e; exact if_pos rfl
    · rw [if_neg e] at ho
      by_cases e2 : K.content hh = k
      · have := (hcontent hh e2.symm).2 v
        rw [this] at ho; cases ho
      · rw [if_neg e2]; exact h.contentLinked hh v ho
  case blobSmall =>
    intro kv b ho
    rw [DS.alookup_objs_output] at ho
    split at ho
    · cases ho; exact hblob b rfl
    · exact h.blobSmall kv b ho

theorem DSWF.content_fresh {d : DS} (h : DSWF d) {b : Bytes} (hex : d.existsNV (.content b) = false) (v : Ver) :
    alookup d.objs (.content b, v) = none := by
  cases ho : alookup d.objs (.content b, v) with
  | none => rfl
  | some c =>
    rw [DS.existsNV_iff.mpr ⟨v, c, h.contentLinked b v (by rw [ho]; rfl), ho⟩] at hex
    cases hex

theorem DSWF.load_small {d : DS} (h : DSWF d) {ck} {val : Option Bytes} (hck : CkHolds d ck val) :
    ∀ b, val = some b → b + 1 < 1000000 := by
  obtain ⟨hck, hl⟩ := hck
  rcases hck with rfl | ⟨k, ver, b', rfl, _, hb'⟩
  · cases hl; intro b e; cases e
  · rw [FsBackend.loadResult_blob hb'] at hl
    cases hl
    intro b e; cases e
    exact h.blobSmall _ _ hb'

theorem DSWF.inputNV_mdat {d : DS} (h : DSWF d) (fn : Fn) (arg : Arg) (mk : MKey) :
    d.inputNV (.mdat fn arg mk false) = none ∨ ∃ b, d.inputNV (.mdat fn arg mk false) = some (.raw b) := by
  cases hl : alookup d.links (.mdat fn arg mk false) with
  | none => exact Or.inl (DS.inputNV_none_of_link hl)
  | some v => exact Or.inr ((h.metaOk fn arg mk v hl).imp fun _ hb => DS.inputNV_eq_some.mpr ⟨v, hl, hb⟩)

theorem DSWF.deleteLink_override {d : DS} (h : DSWF d) (o : Nat) : DSWF (d.deleteLink (.override o)) := by
  have hl : ∀ k, k ≠ K.override o →
      alookup (d.deleteLink (.override o)).links k = alookup d.links k := by
    intro k hk; rw [DS.alookup_links_deleteLink, if_neg hk]
  constructor
  case objFresh => exact h.objFresh
  case objNodup => exact h.objNodup
  case contentOk => exact h.contentOk
  case blobSmall => exact h.blobSmall
  case linkFresh =>
    intro p hp; exact h.linkFresh p (List.mem_filter.mp hp).1
  case linkNodup =>
    exact keys_filter_nodup _ h.linkNodup
  case mementoOk =>
    intro fn arg v hlk
    rw [hl _ (by simp)] at hlk
    exact h.mementoOk fn arg v hlk
  case metaOk =>
    intro fn arg mk v hlk
    rw [hl _ (by simp)] at hlk
    exact h.metaOk fn arg mk v hlk
  case metaHasMemento =>
    intro fn arg mk wd v hlk
    rw [hl _ (by simp)] at hlk ⊢
    exact h.metaHasMemento fn arg mk wd v hlk
  case contentLinked =>
    intro hh v ho
    rw [hl _ (by simp)]
    exact h.contentLinked hh v ho

/-- what the selectors of the forget operations have in common (`Op.forgetSel_spec`) -/
structure SelOk (sel : K → Bool) : Prop where
  mdat : ∀ fn arg mk wd, sel (.memento fn arg) = true → sel (.mdat fn arg mk wd) = true
  metaOrAll : (∀ k, sel k = true → k.isMetaArea = true) ∨ (∀ k, sel k = true)

theorem SelOk.spares_data {sel : K → Bool} (h : SelOk sel) {k' k : K} (hs : sel k' = false)
    (hk : k.isMetaArea = false) : sel k = false := by
  rcases h.metaOrAll with h2 | h2
  · cases hsk : sel k with
    | false => rfl
    | true => rw [h2 k hsk] at hk; cases hk
  · rw [h2 k'] at hs; cases hs

theorem CkOk.deleteWhere {d : DS} {ck} (hck : CkOk d ck) {sel : K → Bool} (hsel : SelOk sel) {k' : K}
    (hs : sel k' = false) :
    CkOk (d.deleteWhere sel) ck ∧ FsBackend.loadResult (d.deleteWhere sel) ck = FsBackend.loadResult d ck :=
  hck.transfer fun _ _ _ hk hb => DS.objs_deleteWhere_some.mpr ⟨hsel.spares_data hs hk, hb⟩

theorem FsBackend.storeEntry_deleteWhere {d : DS} (h : DSWF d) {sel : K → Bool} (hsel : SelOk sel) (fn : Fn) (arg : Arg) :
    storeEntry (d.deleteWhere sel) fn arg = if sel (.memento fn arg) then none else storeEntry d fn arg := by
  cases hs : sel (.memento fn arg) with
  | true =>
    rw [storeEntry_eq, readMemento_deleteWhere, hs]
    rfl
  | false =>
    exact storeEntry_congr (by rw [readMemento_deleteWhere, hs]; rfl)
      fun _ _ hr => ((h.mOk.ckOk_of_read hr).deleteWhere hsel hs).2

theorem DSWF.deleteWhere {d : DS} (h : DSWF d) {sel : K → Bool} (hsel : SelOk sel) : DSWF (d.deleteWhere sel) := by
  constructor
  case objFresh =>
    intro p hp; exact h.objFresh p (List.mem_filter.mp hp).1
  case linkFresh =>
    intro p hp; exact h.linkFresh p (List.mem_filter.mp hp).1
  case objNodup =>
    exact keys_filter_nodup _ h.objNodup
  case linkNodup =>
    exact keys_filter_nodup _ h.linkNodup
  case mementoOk =>
    intro fn arg v hl
    obtain ⟨hs, hl⟩ := DS.links_deleteWhere_some.mp hl
    obtain ⟨m, ck, ho, hck⟩ := h.mementoOk fn arg v hl
    exact ⟨m, ck, DS.objs_deleteWhere_some.mpr ⟨hs, ho⟩, (hck.deleteWhere hsel hs).1⟩
  case metaOk =>
    intro fn arg mk v hl
    obtain ⟨hs, hl⟩ := DS.links_deleteWhere_some.mp hl
    obtain ⟨b, ho⟩ := h.metaOk fn arg mk v hl
    exact ⟨b, DS.objs_deleteWhere_some.mpr ⟨hs, ho⟩⟩
  case metaHasMemento =>
    intro fn arg mk wd v hl
    obtain ⟨hs, hl⟩ := DS.links_deleteWhere_some.mp hl
    have : sel (.memento fn arg) = false := by
      cases hsm : sel (.memento fn arg) with
      | false => rfl
      | true => rw [hsel.mdat fn arg mk wd hsm] at hs; cases hs
    rw [DS.alookup_links_deleteWhere, this]
    exact h.metaHasMemento fn arg mk wd v hl
  case contentOk =>
    intro hh v c ho
    exact h.contentOk hh v c (DS.objs_deleteWhere_some.mp ho).2
  case contentLinked =>
    intro hh v ho
    rw [DS.alookup_objs_deleteWhere] at ho
    rw [DS.alookup_links_deleteWhere]
    split at ho
    · cases ho
    · rename_i hs; rw [if_neg hs]; exact h.contentLinked hh v ho
  case blobSmall =>
    intro kv b ho
    obtain ⟨k, v⟩ := kv
    exact h.blobSmall _ b (DS.objs_deleteWhere_some.mp ho).2

end Memento.Store
