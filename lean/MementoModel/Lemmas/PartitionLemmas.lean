import MementoModel.Model.Partition
import MementoModel.Lemmas.AList

/-! `kvGet`, `ixGet` and `sortKeys` are `Store.alookup` and `Store.sortDedup`: their facts come from `Lemmas/AList`.
    On top: what `layer` builds, and the `view` of a partition. -/

namespace Memento.Partition

theorem kvGet_eq (l : KV) (k : K) : kvGet l k = Store.alookup l k :=
  Store.alookup_unique kvGet (fun _ => rfl) (fun _ _ _ => rfl) l k

theorem ixGet_eq (l : Index) (k : K) : ixGet l k = Store.alookup l k :=
  Store.alookup_unique ixGet (fun _ => rfl) (fun _ _ _ => rfl) l k

theorem ixDel_eq (ix : Index) (k : K) : ixDel ix k = Store.adel ix k := rfl

/-- one step of `layer` -/
theorem cons_ixDel (ix : Index) (k : K) (e : V × Bool) : (k, e) :: ixDel ix k = Store.aset ix k e := by
  rw [ixDel_eq]
  rfl

theorem insertKey_eq (k : K) (l : List K) : insertKey k l = Store.insertNat k l := by
  induction l with
  | nil => rfl
  | cons a r ih => simp only [insertKey, Store.insertNat, ih]

theorem sortKeys_eq (l : List K) : sortKeys l = Store.sortDedup l :=
  congrArg (fun f => l.foldr f []) (funext fun k => funext (insertKey_eq k))

theorem mem_keys_iff_kvGet (own : KV) (k : K) : k ∈ own.map (·.1) ↔ ∃ v, kvGet own k = some v := by
  rw [kvGet_eq]; exact Store.mem_keys_iff_alookup

theorem mem_keys_iff_ixGet (ix : Index) (k : K) : k ∈ ix.map (·.1) ↔ ∃ e, ixGet ix k = some e := by
  rw [ixGet_eq]; exact Store.mem_keys_iff_alookup

theorem ixGet_map_mark (pix : Index) (k : K) :
    ixGet (pix.map (fun e => (e.1, e.2.1, true))) k = (ixGet pix k).map (fun e => (e.1, true)) := by
  rw [ixGet_eq, ixGet_eq]
  exact Store.alookup_map_val pix (fun _ e => (e.1, true)) k

theorem kvGet_map_ix (ix : Index) (k : K) :
    kvGet (ix.map (fun e => (e.1, e.2.1))) k = (ixGet ix k).map (·.1) := by
  rw [kvGet_eq, ixGet_eq]
  exact Store.alookup_map_val ix (fun _ e => e.1) k

theorem ixGet_filter {ix : Index} (hn : (ix.map (·.1)).Nodup) (p : V × Bool → Bool) (k : K) :
    ixGet (ix.filter (fun e => p e.2)) k = (ixGet ix k).filter p := by
  rw [ixGet_eq, ixGet_eq]
  exact Store.alookup_filter_val hn p k

theorem mem_sortKeys (l : List K) (a : K) : a ∈ sortKeys l ↔ a ∈ l := by
  rw [sortKeys_eq]; exact Store.mem_sortDedup a l

theorem sortKeys_sorted (l : List K) : (sortKeys l).Pairwise (· < ·) := by
  rw [sortKeys_eq]; exact Store.sorted_sortDedup l

theorem layer_get (own : KV) (ks : List K) (ix : Index) (k : K) :
    ixGet (layer own ks ix) k =
      if k ∈ ks then (match kvGet own k with | some v => some (v, false) | none => ixGet ix k) else ixGet ix k := by
  fun_induction layer own ks ix with
  | case1 ix => simp
  | case2 a ks ix v ha ih =>
    rw [ih, cons_ixDel, ixGet_eq, Store.alookup_aset, ← ixGet_eq]
    by_cases hak : k = a
    · subst hak
      simp [ha]
    · simp only [hak, if_false, List.mem_cons, false_or]
  | case3 a ks ix ha ih =>
    rw [ih]
    by_cases hk : k ∈ ks
    · simp [hk]
    · by_cases hak : k = a
      · subst hak
        simp [hk, ha]
      · simp [hk, hak]

/-- the own entries layered in `list_keys(False)` order -/
theorem layer_ownKeys_get (own : KV) (ix : Index) (k : K) :
    ixGet (layer own (sortKeys (own.map (·.1))) ix) k =
      match kvGet own k with
      | some v => some (v, false)
      | none => ixGet ix k := by
  rw [layer_get]
  cases hk : kvGet own k with
  | some v => rw [if_pos ((mem_sortKeys _ _).mpr ((mem_keys_iff_kvGet own k).mpr ⟨v, hk⟩))]
  | none => split <;> rfl

theorem layer_nodup {own : KV} {ks : List K} {ix : Index} :
    (ix.map (·.1)).Nodup → ((layer own ks ix).map (·.1)).Nodup := by
  fun_induction layer own ks ix with
  | case1 ix => exact id
  | case2 a ks ix v ha ih => exact fun h => ih (cons_ixDel ix a (v, false) ▸ Store.keys_aset_nodup a (v, false) h)
  | case3 a ks ix ha ih => exact ih

/-- recorded indices are dictionaries and say what the object says -/
inductive Faithful : Part → Prop
  | pickle (ix : Index) : (ix.map (·.1)).Nodup → Faithful (.pickle ix)
  | root (own : KV) (rec : Option Index) :
      (∀ r, rec = some r → (r.map (·.1)).Nodup ∧ ∀ k, (ixGet r k).map (·.1) = kvGet own k) →
      Faithful (.mem own none rec)
  | child (own : KV) (p : Part) (rec : Option Index) : Faithful p →
      (∀ r, rec = some r → (r.map (·.1)).Nodup ∧ ∀ k, (ixGet r k).map (·.1) = (Part.mem own (some p) rec).get k) →
      Faithful (.mem own (some p) rec)

/-- a parent can be merged: it is a read-back partition or an object that has been serialised in this process -/
def Serialised : Option Part → Prop
  | none => True
  | some (.pickle _) => True
  | some (.mem _ _ (some _)) => True
  | some (.mem _ _ none) => False

def getOpt : Option Part → K → Option V
  | none, _ => none
  | some p, k => p.get k

theorem get_mem (own : KV) (parent : Option Part) (rec : Option Index) (k : K) :
    (Part.mem own parent rec).get k = (kvGet own k).or (getOpt parent k) := by
  cases parent <;> simp only [Part.get, getOpt] <;> cases kvGet own k <;> rfl

/-- `root` and `child` say the same, `root` with `get` spelt out -/
theorem faithful_mem_iff {own : KV} {parent : Option Part} {rec : Option Index} :
    Faithful (.mem own parent rec) ↔
      (∀ p, parent = some p → Faithful p) ∧
      ∀ r, rec = some r → (r.map (·.1)).Nodup ∧ ∀ k, (ixGet r k).map (·.1) = (Part.mem own parent rec).get k := by
  constructor
  · intro h
    cases h with
    | root _ _ h => exact ⟨fun p hp => (nomatch hp), h⟩
    | child _ p _ hp h => exact ⟨fun p' e => Option.some.inj e ▸ hp, h⟩
  · rintro ⟨hp, h⟩
    cases parent with
    | none => exact .root own rec h
    | some p => exact .child own p rec (hp p rfl) h

theorem parentIndex_spec {q : Option Part} (hs : Serialised q) (hf : ∀ p, q = some p → Faithful p) :
    ∃ pix, parentIndex q = some pix ∧ (pix.map (·.1)).Nodup ∧ ∀ k, (ixGet pix k).map (·.1) = getOpt q k := by
  match q, hs, hf with
  | none, _, _ => exact ⟨[], rfl, List.nodup_nil, fun k => rfl⟩
  | some (.pickle ix), _, hf =>
    cases hf _ rfl with
    | pickle _ hn => exact ⟨ix, rfl, hn, fun k => rfl⟩
  | some (.mem own parent (some r)), _, hf =>
    obtain ⟨hn, hg⟩ := (faithful_mem_iff.mp (hf _ rfl)).2 r rfl
    exact ⟨r, rfl, hn, hg⟩

theorem store_isSome_iff {own : KV} {parent : Option Part} {rec : Option Index} :
    (store (.mem own parent rec)).isSome = true ↔ Serialised parent := by
  match parent with
  | none | some (.pickle _) | some (.mem _ _ (some _)) => exact ⟨fun _ => trivial, fun _ => rfl⟩
  | some (.mem _ _ none) => exact ⟨fun h => (nomatch h), fun h => False.elim h⟩

/-- What a partition says about a key: its value, and whether it is inherited. `get` and `listKeys` are functions of it
    (`observe_congr`) and `store` writes it: hence the round trips. -/
def view : Part → K → Option (V × Bool)
  | .pickle ix, k => ixGet ix k
  | .mem own parent _, k =>
    match kvGet own k with
    | some v => some (v, false)
    | none => (getOpt parent k).map (·, true)

/-- a read-back partition's index is a dictionary; nothing is asked of a partition object, whose `get` and `listKeys`
    do not read the recorded index -/
def IxOk : Part → Prop
  | .pickle ix => (ix.map (·.1)).Nodup
  | .mem _ _ _ => True

theorem get_view (p : Part) (k : K) : p.get k = (view p k).map (·.1) := by
  cases p with
  | pickle ix => rfl
  | mem own parent rec =>
    rw [get_mem, view]
    cases kvGet own k <;> cases getOpt parent k <;> rfl

theorem listKeys_sorted (p : Part) (b : Bool) : (p.listKeys b).Pairwise (· < ·) := by
  cases p with
  | pickle ix => cases b <;> exact sortKeys_sorted _
  | mem own parent rec => cases parent <;> cases b <;> exact sortKeys_sorted _

theorem mem_listKeys_true : ∀ (p : Part) (k : K), k ∈ p.listKeys true ↔ (p.get k).isSome
  | .pickle ix, k => by
    simp only [Part.listKeys, if_true, mem_sortKeys, mem_keys_iff_ixGet, Part.get, Option.isSome_map,
      Option.isSome_iff_exists]
  | .mem own none rec, k => by
    simp only [Part.listKeys, mem_sortKeys, mem_keys_iff_kvGet, Part.get, Option.isSome_iff_exists]
  | .mem own (some q) rec, k => by
    simp only [Part.listKeys, if_true, mem_sortKeys, List.mem_append, mem_listKeys_true q k, mem_keys_iff_kvGet, Part.get]
    cases kvGet own k <;> simp

theorem listKeys_false_mem (own : KV) (parent : Option Part) (rec : Option Index) :
    (Part.mem own parent rec).listKeys false = sortKeys (own.map (·.1)) := by
  cases parent <;> rfl

theorem mem_ownKeys {ix : Index} (hn : (ix.map (·.1)).Nodup) (k : K) :
    k ∈ (ix.filter (fun e => !e.2.2)).map (·.1) ↔ ∃ v, ixGet ix k = some (v, false) := by
  rw [mem_keys_iff_ixGet, ixGet_filter hn (fun e => !e.2)]
  cases ixGet ix k with
  | none => simp
  | some e =>
    obtain ⟨v, b⟩ := e
    cases b <;> simp [Option.filter]

theorem mem_listKeys_false (p : Part) (hp : IxOk p) (k : K) :
    k ∈ p.listKeys false ↔ ∃ v, view p k = some (v, false) := by
  cases p with
  | pickle ix => exact (mem_sortKeys _ _).trans (mem_ownKeys hp k)
  | mem own parent rec =>
    rw [listKeys_false_mem, mem_sortKeys, mem_keys_iff_kvGet, view]
    cases kvGet own k with
    | some v => exact ⟨fun _ => ⟨v, rfl⟩, fun _ => ⟨v, rfl⟩⟩
    | none =>
      refine ⟨fun ⟨_, h⟩ => (nomatch h), fun ⟨_, h⟩ => ?_⟩
      cases hg : getOpt parent k <;> rw [hg] at h <;> cases h

theorem observe_congr {p q : Part} (hp : IxOk p) (hq : IxOk q) (h : ∀ k, view p k = view q k) :
    (∀ k, p.get k = q.get k) ∧ ∀ b, p.listKeys b = q.listKeys b := by
  have hget : ∀ k, p.get k = q.get k := fun k => by rw [get_view, get_view, h k]
  refine ⟨hget, fun b => Store.sorted_ext _ _ (listKeys_sorted p b) (listKeys_sorted q b) (fun k => ?_)⟩
  cases b with
  | true => rw [mem_listKeys_true, mem_listKeys_true, hget k]
  | false => rw [mem_listKeys_false p hp, mem_listKeys_false q hq, h k]

theorem store_mem_view (own : KV) (parent : Option Part) (rec : Option Index)
    (hs : Serialised parent) (hf : ∀ p, parent = some p → Faithful p) :
    ∃ ix, store (.mem own parent rec) = some (ix, .mem own parent (some ix)) ∧
      (ix.map (·.1)).Nodup ∧ ∀ k, ixGet ix k = view (.mem own parent rec) k := by
  obtain ⟨pix, hp, hn, hg⟩ := parentIndex_spec hs hf
  refine ⟨layer own (sortKeys (own.map (·.1))) (pix.map (fun e => (e.1, e.2.1, true))),
    by simp only [store, hp], layer_nodup (by rw [List.map_map]; exact hn), fun k => ?_⟩
  rw [layer_ownKeys_get, ixGet_map_mark, view, ← hg k]
  cases kvGet own k with
  | some v => rfl
  | none => cases ixGet pix k <;> rfl

/-- `nxt`: both things the next level of a chain may receive, the partition read back or the object handed back -/
theorem store_step (own : KV) (q : Option Part) (rec : Option Index)
    (hs : Serialised q) (hf : ∀ p, q = some p → Faithful p) :
    ∃ ix, store (.mem own q rec) = some (ix, .mem own q (some ix)) ∧
      ∀ nxt, nxt = load ix ∨ nxt = .mem own q (some ix) →
        Serialised (some nxt) ∧ Faithful nxt ∧ ∀ k, nxt.get k = (Part.mem own q rec).get k := by
  obtain ⟨ix, hst, hnd, hv⟩ := store_mem_view own q rec hs hf
  have hg : ∀ k, (load ix).get k = (Part.mem own q rec).get k := fun k => by
    rw [get_view, get_view]
    exact congrArg _ (hv k)
  refine ⟨ix, hst, ?_⟩
  rintro nxt (rfl | rfl)
  · exact ⟨trivial, .pickle ix hnd, hg⟩
  · refine ⟨trivial, faithful_mem_iff.mpr ⟨hf, ?_⟩, fun k => by rw [get_mem, get_mem]⟩
    rintro r ⟨⟩
    exact ⟨hnd, fun k => by rw [get_mem, ← get_mem own q rec]; exact hg k⟩

/-- a read-back partition that is returned again (fix F20) -/
theorem store_pickle {ix : Index} (hn : (ix.map (·.1)).Nodup) :
    ∃ ix', store (.pickle ix) = some (ix', .pickle ix) ∧ (ix'.map (·.1)).Nodup ∧ ∀ k, ixGet ix' k = ixGet ix k := by
  refine ⟨_, rfl, layer_nodup (Store.keys_filter_nodup _ hn), fun k => ?_⟩
  rw [layer_ownKeys_get, kvGet_map_ix, ixGet_filter hn (fun e => !e.2), ixGet_filter hn (fun e => e.2)]
  cases ixGet ix k with
  | none => rfl
  | some e =>
    obtain ⟨v, b⟩ := e
    cases b <;> rfl

end Memento.Partition
