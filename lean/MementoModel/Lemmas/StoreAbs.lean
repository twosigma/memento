import MementoModel.Lemmas.StoreDS

/-! The abstraction function of the filesystem backend and how the store-changing steps act on it,
    at the level of `DS` (no cache). -/
namespace Memento.Store
open Memento

namespace FsBackend

def entryOf (d : DS) (k : K) : Option ((Fn × Arg) × Entry) :=
  match k with
  | .memento fn arg =>
    match readMemento d fn arg with
    | some (m, ck) => some ((fn, arg), ⟨m, (loadResult d ck).getD none⟩)
    | none => none
  | _ => none

def mdataOf (d : DS) (k : K) : Option ((Fn × Arg × MKey) × Bytes) :=
  match k with
  | .mdat fn arg k false =>
    match d.inputNV (.mdat fn arg k false) with
    | some (.raw b) => some ((fn, arg, k), b)
    | _ => none
  | _ => none

def absDS (d : DS) : Spec :=
  { entries := d.links.filterMap (fun p => entryOf d p.1),
    mdata := d.links.filterMap (fun p => mdataOf d p.1) }

theorem abs_eq (s : FsBackend) : abs s = absDS s.ds := rfl

theorem absDS_eq {d : DS} {E M} (hE : d.links.filterMap (fun p => entryOf d p.1) = E)
    (hM : d.links.filterMap (fun p => mdataOf d p.1) = M) : absDS d = ⟨E, M⟩ :=
  congr (congrArg Spec.mk hE) hM

theorem entryOf_memento (d : DS) (fn : Fn) (arg : Arg) :
    entryOf d (.memento fn arg) = (storeEntry d fn arg).map (fun x => ((fn, arg), ⟨x.1, x.2.2⟩)) := by
  rw [storeEntry_eq]
  simp only [entryOf]
  cases readMemento d fn arg <;> rfl

theorem entryOf_key {d : DS} {k : K} {q} (h : entryOf d k = some q) : k = .memento q.1.1 q.1.2 := by
  cases k with
  | memento fn arg =>
    rw [entryOf_memento] at h
    cases hs : storeEntry d fn arg with
    | none => rw [hs] at h; cases h
    | some x => rw [hs] at h; cases h; rfl
  | _ => cases h

theorem mdataOf_key {d : DS} {k : K} {q} (h : mdataOf d k = some q) : k = .mdat q.1.1 q.1.2.1 q.1.2.2 false := by
  cases k with
  | mdat fn arg mk wd =>
    cases wd with
    | true => cases h
    | false =>
      simp only [mdataOf] at h
      split at h
      · cases h; rfl
      · cases h
  | _ => cases h

theorem mdataOf_mdat (d : DS) (fn arg mk) :
    mdataOf d (.mdat fn arg mk false) =
      match d.inputNV (.mdat fn arg mk false) with
      | some (.raw b) => some ((fn, arg, mk), b)
      | _ => none := rfl

theorem view_nonmeta {d : DS} {k : K} (h : k.isMetaArea = false) : entryOf d k = none ∧ mdataOf d k = none := by
  cases k with
  | memento | mdat => cases h
  | content | override => exact ⟨rfl, rfl⟩

theorem entryOf_view {d : DS} {k : K} {q} (fn : Fn) (arg : Arg) (h : entryOf d k = some q) :
    q.1 = (fn, arg) ↔ k = .memento fn arg := by
  have := entryOf_key h
  constructor
  · intro e; rw [this, e]
  · intro e; rw [e] at this; cases this; rfl

theorem mdataOf_view {d : DS} {k : K} {q} (fn : Fn) (arg : Arg) (mk : MKey) (h : mdataOf d k = some q) :
    q.1 = (fn, arg, mk) ↔ k = .mdat fn arg mk false := by
  have := mdataOf_key h
  constructor
  · intro e; rw [this, e]
  · intro e; rw [e] at this; cases this; rfl

theorem alookup_abs_entries (d : DS) (fn : Fn) (arg : Arg) :
    alookup (absDS d).entries (fn, arg) =
      (readMemento d fn arg).map (fun x => ⟨x.1, (loadResult d x.2).getD none⟩) := by
  refine (alookup_filterMap_key d.links (entryOf d) (.memento fn arg) (fn, arg)
    (fun a' q hq => entryOf_view fn arg hq)
    (fun hno => by simp only [entryOf, readMemento_none_of_link hno])).trans ?_
  simp only [entryOf]
  cases readMemento d fn arg <;> rfl

theorem alookup_abs_mdata (d : DS) (fn : Fn) (arg : Arg) (mk : MKey) :
    alookup (absDS d).mdata (fn, arg, mk) =
      match d.inputNV (.mdat fn arg mk false) with
      | some (.raw b) => some b
      | _ => none := by
  refine (alookup_filterMap_key d.links (mdataOf d) (.mdat fn arg mk false) (fn, arg, mk)
    (fun a' q hq => mdataOf_view fn arg mk hq)
    (fun hno => by rw [mdataOf_mdat, DS.inputNV_none_of_link hno])).trans ?_
  rw [mdataOf_mdat]
  cases d.inputNV (.mdat fn arg mk false) with
  | none => rfl
  | some c => cases c <;> rfl

theorem view_frame {d d' : DS} (h : DSWF d) (k : K)
    (hl : k.isMetaArea = true → alookup d'.links k = alookup d.links k) (ho : ObjsExt d d') :
    entryOf d' k = entryOf d k ∧ mdataOf d' k = mdataOf d k := by
  cases k with
  | memento fn arg =>
    exact ⟨by rw [entryOf_memento, entryOf_memento, h.mOk.storeEntry_frame fn arg (hl rfl) ho], rfl⟩
  | mdat fn arg mk wd =>
    refine ⟨rfl, ?_⟩
    cases wd with
    | true => rfl
    | false =>
      have hi : d'.inputNV (.mdat fn arg mk false) = d.inputNV (.mdat fn arg mk false) :=
        DS.inputNV_congr (hl rfl) fun v hv => by
          obtain ⟨b, hb⟩ := h.metaOk fn arg mk v hv
          rw [hb, ho _ _ hb]
      rw [mdataOf_mdat, mdataOf_mdat, hi]
  | _ => exact ⟨rfl, rfl⟩

theorem view_output {d : DS} (h : DSWF d) {k0 : K} {c : Content} {k : K} (hk : k ≠ k0) :
    entryOf (d.output k0 c).1 k = entryOf d k ∧ mdataOf (d.output k0 c).1 k = mdataOf d k :=
  view_frame h k (fun _ => by rw [DS.alookup_links_output, if_neg hk]) (ObjsExt.output h k0 c)

theorem view_deleteWhere {d : DS} (h : DSWF d) {sel : K → Bool} (hsel : SelOk sel) (k : K) (hk : sel k = false) :
    entryOf (d.deleteWhere sel) k = entryOf d k ∧ mdataOf (d.deleteWhere sel) k = mdataOf d k := by
  cases k with
  | memento fn arg =>
    exact ⟨by rw [entryOf_memento, entryOf_memento, storeEntry_deleteWhere h hsel, hk]; rfl, rfl⟩
  | mdat fn arg mk wd =>
    refine ⟨rfl, ?_⟩
    cases wd with
    | true => rfl
    | false => rw [mdataOf_mdat, mdataOf_mdat, DS.inputNV_deleteWhere, hk]; rfl
  | _ => exact ⟨rfl, rfl⟩

/-- a write to the data area (content / override keys). `linksFM`: the links outside it are the same list in the
    same order, in the form `absDS` consumes. -/
structure DataStep (d d1 : DS) : Prop where
  wf : DSWF d1
  ext : ObjsExt d d1
  metaLinks : ∀ k, k.isMetaArea = true → alookup d1.links k = alookup d.links k
  linksFM : ∀ {γ : Type} (F : K → Option γ), (∀ k, k.isMetaArea = false → F k = none) →
      d1.links.filterMap (fun p => F p.1) = d.links.filterMap (fun p => F p.1)

theorem DataStep.refl {d : DS} (h : DSWF d) : DataStep d d :=
  ⟨h, ObjsExt.refl d, fun _ _ => rfl, fun _ _ => rfl⟩

theorem DataStep.deleteLink {d : DS} (h : DSWF d) (o : Nat) : DataStep d (d.deleteLink (.override o)) := by
  refine ⟨h.deleteLink_override o, fun _ _ ho => ho, ?_, ?_⟩
  · intro k hk
    rw [DS.alookup_links_deleteLink, if_neg]
    intro e; rw [e] at hk; cases hk
  · intro γ F hF
    exact filterMap_adel_skip (F := F) (F' := F) (hF _ rfl) (fun _ _ _ => rfl)

theorem DataStep.output {d : DS} (h : DSWF d) (ko : K) (b : Bytes) (hko : ko.isMetaArea = false)
    (hcontent : ∀ hh, ko = .content hh → hh = b ∧ ∀ v, alookup d.objs (.content hh, v) = none)
    (hb : b + 1 < 1000000) : DataStep d (d.output ko (.blob b)).1 := by
  have hwf : DSWF (d.output ko (.blob b)).1 :=
    h.output ko _ (fun _ _ e => by rw [e] at hko; cases hko) (fun _ _ _ _ e => by rw [e] at hko; cases hko)
      (fun hh e => ⟨by rw [(hcontent hh e).1], (hcontent hh e).2⟩) (fun _ e => by cases e; exact hb)
  refine ⟨hwf, ObjsExt.output h _ _, ?_, ?_⟩
  · intro k hk
    rw [DS.alookup_links_output, if_neg]
    intro e; rw [e, hko] at hk; cases hk
  · intro γ F hF
    exact filterMap_aset_skip (F := F) (F' := F) (hF ko hko) (hF ko hko) (fun _ _ _ => rfl)

theorem DataStep.abs {d d1 : DS} (hs : DataStep d d1) (h : DSWF d) : absDS d1 = absDS d := by
  have frame := fun k => view_frame (d' := d1) h k (hs.metaLinks k) hs.ext
  exact absDS_eq
    ((hs.linksFM (entryOf d1) fun k hk => (view_nonmeta hk).1).trans (filterMap_congr fun p _ => (frame p.1).1))
    ((hs.linksFM (mdataOf d1) fun k hk => (view_nonmeta hk).2).trans (filterMap_congr fun p _ => (frame p.1).2))

theorem output_blob {d : DS} (h : DSWF d) (ko : K) (b : Bytes) (hko : ko.isMetaArea = false)
    (hcontent : ∀ hh, ko = .content hh → hh = b ∧ ∀ v, alookup d.objs (.content hh, v) = none)
    (hb : b + 1 < 1000000) :
    DataStep d (d.output ko (.blob b)).1 ∧ CkHolds (d.output ko (.blob b)).1 (some (ko, d.next)) (some b) :=
  ⟨DataStep.output h ko b hko hcontent hb, CkHolds.blob hko (by rw [DS.alookup_objs_output, if_pos rfl])⟩

theorem codecStore_spec {d : DS} (h : DSWF d) (ov : Option Nat) (val : Option Bytes)
    (hval : ∀ b, val = some b → b + 1 < 1000000) :
    DataStep d (codecStore d ov val).1 ∧ CkHolds (codecStore d ov val).1 (codecStore d ov val).2 val := by
  fun_cases codecStore d ov val with
  | case1 o => exact ⟨DataStep.deleteLink h o, CkHolds.null _⟩
  | case2 => exact ⟨DataStep.refl h, CkHolds.null _⟩
  | case3 b o d' v hout => cases hout; exact output_blob h (.override o) b rfl (fun _ e => nomatch e) (hval b rfl)
  | case4 b hex v hg =>
    obtain ⟨v', c, hl, ho⟩ := DS.existsNV_iff.mp hex
    cases hl.symm.trans hg
    cases h.contentOk b v c ho
    exact ⟨DataStep.refl h, CkHolds.blob rfl ho⟩
  | case5 b hex hg =>
    obtain ⟨v', c, hl, ho⟩ := DS.existsNV_iff.mp hex
    cases hl.symm.trans hg
  | case6 b hex d' v hout =>
    cases hout
    exact output_blob h (.content b) b rfl
      (fun _ e => by cases e; exact ⟨rfl, h.content_fresh (by simpa using hex)⟩) (hval b rfl)

theorem output_memento {d : DS} (h : DSWF d) (fn : Fn) (arg : Arg) (m : Nat) {ck} {val : Option Bytes}
    (hck : CkHolds d ck val) :
    DSWF (d.output (.memento fn arg) (.mrec m ck)).1 ∧
    (∀ fn' arg', storeEntry (d.output (.memento fn arg) (.mrec m ck)).1 fn' arg' =
      if K.memento fn' arg' = K.memento fn arg then some (m, ck, val) else storeEntry d fn' arg') ∧
    absDS (d.output (.memento fn arg) (.mrec m ck)).1 =
      ⟨aset (absDS d).entries (fn, arg) ⟨m, val⟩, (absDS d).mdata⟩ := by
  have hnew : storeEntry (d.output (.memento fn arg) (.mrec m ck)).1 fn arg = some (m, ck, val) := by
    rw [storeEntry_of_read (by rw [readMemento_output, if_pos rfl]),
      (hck.ckOk.ext (ObjsExt.output h _ _)).2, hck.load]; rfl
  have hwf : DSWF (d.output (.memento fn arg) (.mrec m ck)).1 :=
    h.output _ _ (fun _ _ _ => ⟨m, ck, rfl, hck.ckOk⟩) (fun _ _ _ _ e => nomatch e) (fun _ e => nomatch e)
      (fun _ e => nomatch e)
  refine ⟨hwf, ?_, ?_⟩
  · intro fn' arg'
    by_cases e : K.memento fn' arg' = K.memento fn arg
    · cases e; rw [if_pos rfl, hnew]
    · rw [if_neg e]
      exact storeEntry_output h e
  · exact absDS_eq
      (filterMap_aset_view (by rw [entryOf_memento, hnew]; rfl)
        (fun p _ q hq => entryOf_view fn arg hq) (fun p _ hp => (view_output h hp).1))
      (filterMap_aset_skip rfl rfl (fun p _ hp => (view_output h hp).2))

theorem memoize_ds {d d1 : DS} {ck} (h : DSWF d) (fn : Fn) (arg : Arg) (ov : Option Nat) (mem : Nat)
    (val : Option Bytes) (hval : ∀ b, val = some b → b + 1 < 1000000)
    (hc : codecStore d ov val = (d1, ck)) :
    DSWF (d1.output (.memento fn arg) (.mrec mem ck)).1 ∧
    (∀ fn' arg', readMemento (d1.output (.memento fn arg) (.mrec mem ck)).1 fn' arg' =
      if K.memento fn' arg' = K.memento fn arg then some (mem, ck) else readMemento d fn' arg') ∧
    (∀ fn' arg', storeEntry (d1.output (.memento fn arg) (.mrec mem ck)).1 fn' arg' =
      if K.memento fn' arg' = K.memento fn arg then some (mem, ck, val) else storeEntry d fn' arg') ∧
    absDS (d1.output (.memento fn arg) (.mrec mem ck)).1 =
      ⟨aset (absDS d).entries (fn, arg) ⟨mem, val⟩, (absDS d).mdata⟩ := by
  obtain ⟨hstep, hck⟩ := codecStore_spec h ov val hval
  rw [hc] at hstep hck
  obtain ⟨hwf, hstore, habs⟩ := output_memento hstep.wf fn arg mem hck
  exact ⟨hwf,
    fun fn' arg' => by rw [readMemento_output, h.mOk.readMemento_frame _ _ (hstep.metaLinks _ rfl) hstep.ext],
    fun fn' arg' => by rw [hstore, h.mOk.storeEntry_frame _ _ (hstep.metaLinks _ rfl) hstep.ext],
    by rw [habs, hstep.abs h]⟩

theorem wmeta_ds {d : DS} (h : DSWF d) (fn : Fn) (arg : Arg) (mk : MKey) (b : Bytes)
    (hadm : (readMemento d fn arg).isSome) :
    DSWF (d.output (.mdat fn arg mk false) (.raw b)).1 ∧
    (∀ fn' arg', readMemento (d.output (.mdat fn arg mk false) (.raw b)).1 fn' arg' = readMemento d fn' arg') ∧
    (∀ fn' arg', storeEntry (d.output (.mdat fn arg mk false) (.raw b)).1 fn' arg' = storeEntry d fn' arg') ∧
    absDS (d.output (.mdat fn arg mk false) (.raw b)).1 =
      ⟨(absDS d).entries, aset (absDS d).mdata (fn, arg, mk) b⟩ := by
  have hlinked : (alookup d.links (.memento fn arg)).isSome := by
    obtain ⟨p, hr⟩ := Option.isSome_iff_exists.mp hadm
    obtain ⟨v, hl, _⟩ := readMemento_eq.mp hr
    rw [hl]; rfl
  have hwf : DSWF (d.output (.mdat fn arg mk false) (.raw b)).1 :=
    h.output _ _ (fun _ _ e => nomatch e) (fun _ _ _ _ e => by cases e; exact ⟨fun _ => ⟨b, rfl⟩, hlinked⟩)
      (fun _ e => nomatch e) (fun _ e => nomatch e)
  refine ⟨hwf,
    fun fn' arg' => by rw [readMemento_output, if_neg (fun e => nomatch e)],
    fun fn' arg' => storeEntry_output h (fun e => nomatch e), ?_⟩
  exact absDS_eq
    (filterMap_aset_skip rfl rfl (fun p _ hp => (view_output h hp).1))
    (filterMap_aset_view (by rw [mdataOf_mdat, DS.inputNV_output, if_pos rfl])
      (fun p _ q hq => mdataOf_view fn arg mk hq) (fun p _ hp => (view_output h hp).2))

/-- `P`, `Q` are the selector read on dictionary keys -/
theorem abs_deleteWhere {d : DS} (h : DSWF d) {sel : K → Bool} (hsel : SelOk sel)
    (P : Fn × Arg → Bool) (Q : Fn × Arg × MKey → Bool)
    (hP : ∀ f a, P (f, a) = !sel (.memento f a)) (hQ : ∀ f a k, Q (f, a, k) = !sel (.mdat f a k false)) :
    absDS (d.deleteWhere sel) =
      ⟨(absDS d).entries.filter (fun q => P q.1), (absDS d).mdata.filter (fun q => Q q.1)⟩ := by
  have frame : ∀ p : K × Ver, (!sel p.1) = true → _ :=
    fun p hp => view_deleteWhere h hsel p.1 (by simpa using hp)
  exact absDS_eq
    (filterMap_filter_view d.links (entryOf d) _ (fun k => !sel k) P
      (fun p _ q hq => by rw [entryOf_key hq]; exact hP _ _) (fun p _ hp => (frame p hp).1))
    (filterMap_filter_view d.links (mdataOf d) _ (fun k => !sel k) Q
      (fun p _ q hq => by rw [mdataOf_key hq]; exact hQ _ _ _) (fun p _ hp => (frame p hp).2))

end FsBackend

def Op.forgetSel (sep : Bool) : Op → K → Bool
  | .fcall fn arg => fun k => k.call? == some (fn, arg)
  | .ffn fn => fun k => k.fn? == some fn
  | .fall => fun k => if sep then k.isMetaArea else true
  | _ => fun _ => false

/-- what one operation does to the object store of a writable backend (`sep`: the metadata has its own
    root); the cache, the heap and the answer play no part -/
def DS.step (sep : Bool) (d : DS) : Op → DS
  | .memoize fn arg ov mem val _ _ =>
    ((FsBackend.codecStore d ov val).1.output (.memento fn arg) (.mrec mem (FsBackend.codecStore d ov val).2)).1
  | op@(.fcall ..) | op@(.ffn ..) | op@.fall => d.deleteWhere (op.forgetSel sep)
  | .wmeta fn arg k b => (d.output (.mdat fn arg k false) (.raw b)).1
  | _ => d

def Op.isForget : Op → Bool
  | .fcall .. | .ffn .. | .fall => true
  | _ => false

/-- only `forget_everything` on a store whose metadata lives in the same root removes data-area objects -/
def Op.wipesData (separate : Bool) : Op → Bool
  | .fall => !separate
  | _ => false

/-- what `DS.step_refines` needs of `FsBackend.admissible` (memento-id freshness only serves the heap part of the invariant) -/
def DS.admissible (d : DS) : Op → Prop
  | .memoize _ _ _ _ val _ _ => ∀ b, val = some b → b + 1 < 1000000
  | .wmeta fn arg _ _ => (FsBackend.readMemento d fn arg).isSome
  | _ => True

theorem DS.admissible_of {s : FsBackend} {op : Op} (h : FsBackend.admissible s op) : DS.admissible s.ds op := by
  cases op with
  | memoize => exact h.2.2
  | wmeta => exact h
  | _ => trivial

theorem DS.step_forget (sep : Bool) (d : DS) (op : Op) (hop : op.isForget = true) :
    DS.step sep d op = d.deleteWhere (op.forgetSel sep) := by
  cases op with
  | fcall | ffn | fall => rfl
  | _ => cases hop

theorem Op.forgetSel_spec (sep : Bool) (op : Op) :
    SelOk (op.forgetSel sep) ∧
    (Op.wipesData sep op = false → ∀ k, op.forgetSel sep k = true → k.isMetaArea = true) := by
  have hmeta : Op.wipesData sep op = false → ∀ k, op.forgetSel sep k = true → k.isMetaArea = true := by
    intro hw k hk
    cases k with
    | memento | mdat => rfl
    | content | override =>
      -- a key of the data area belongs to no call and no function
      cases op with
      | fall =>
        cases sep with
        | true => exact hk
        | false => cases hw
      | _ => cases hk
  refine ⟨⟨?_, ?_⟩, hmeta⟩
  · intro fn arg mk wd hs
    cases op <;> exact hs
  · cases hw : Op.wipesData sep op with
    | false => exact Or.inl (hmeta hw)
    | true =>
      cases op with
      | fall =>
        cases sep with
        | true => cases hw
        | false => exact Or.inr fun _ => rfl
      | _ => cases hw

open FsBackend in
theorem DS.step_refines {d : DS} (h : DSWF d) (sep : Bool) (op : Op) (hadm : DS.admissible d op) :
    DSWF (DS.step sep d op) ∧ absDS (DS.step sep d op) = (Spec.step (absDS d) op).1 := by
  have hsel := (Op.forgetSel_spec sep op).1
  -- on the forget operations `DS.step` is `deleteWhere` of the selector, and the selector evaluates on a key
  cases op with
  | fcall fn arg =>
    -- `adel` compares pairs by `DecidableEq`, the selector by the `BEq` of `Option` and `Prod`: hence `Bool.eq_iff_iff`
    exact ⟨h.deleteWhere hsel, abs_deleteWhere h hsel (nekey (fn, arg)) (fun c => !(c.1 == fn && c.2.1 == arg))
      (fun f a => by rw [Bool.eq_iff_iff]; simp [Op.forgetSel, K.call?, nekey]) (fun _ _ _ => rfl)⟩
  | ffn fn =>
    exact ⟨h.deleteWhere hsel, abs_deleteWhere h hsel (fun c => !(c.1 == fn)) (fun c => !(c.1 == fn))
      (fun _ _ => rfl) (fun _ _ _ => rfl)⟩
  | fall =>
    refine ⟨h.deleteWhere hsel, (abs_deleteWhere h hsel (fun _ => false) (fun _ => false)
      (fun f a => by cases sep <;> rfl) (fun f a k => by cases sep <;> rfl)).trans ?_⟩
    show Spec.mk _ _ = Spec.mk [] []
    congr 1
    · exact List.filter_eq_nil_iff.mpr (fun _ _ hq => nomatch hq)
    · exact List.filter_eq_nil_iff.mpr (fun _ _ hq => nomatch hq)
  | memoize fn arg ov mem val sz wr =>
    obtain ⟨hwf, _, _, habs⟩ := memoize_ds h fn arg ov mem val hadm rfl
    exact ⟨hwf, habs⟩
  | wmeta fn arg k b =>
    obtain ⟨hwf, _, _, habs⟩ := wmeta_ds h fn arg k b hadm
    exact ⟨hwf, habs⟩
  | _ => exact ⟨h, rfl⟩

namespace FsBackend

theorem lsf_eq {d : DS} (h : DSWF d) :
    sortDedup (d.links.filterMap (fun p => p.1.fn?)) = sortDedup ((absDS d).entries.map (·.1.1)) := by
  apply sortDedup_congr
  intro x
  have key : ∀ a, (alookup d.links (.memento x a)).isSome → x ∈ (absDS d).entries.map (·.1.1) := by
    intro a hl
    obtain ⟨v, hlk⟩ := Option.isSome_iff_exists.mp hl
    obtain ⟨m, ck, hr, _⟩ := h.mOk.readMemento_of_link hlk
    have := alookup_abs_entries d x a
    rw [hr] at this
    exact List.mem_map.mpr ⟨_, alookup_mem this, rfl⟩
  constructor
  · intro hx
    obtain ⟨p, hp, hpf⟩ := List.mem_filterMap.mp hx
    obtain ⟨v, hv⟩ := exists_alookup_of_mem hp
    cases hk : p.1 with
    | memento f a =>
      rw [hk] at hpf hv; cases hpf
      exact key a (by rw [hv]; rfl)
    | mdat f a mk wd =>
      rw [hk] at hpf hv; cases hpf
      exact key a (h.metaHasMemento x a mk wd v hv)
    | content b => rw [hk] at hpf; cases hpf
    | override o => rw [hk] at hpf; cases hpf
  · intro hx
    obtain ⟨q, hq, rfl⟩ := List.mem_map.mp hx
    obtain ⟨p, hp, hpe⟩ := List.mem_filterMap.mp hq
    apply List.mem_filterMap.mpr
    refine ⟨p, hp, ?_⟩
    rw [entryOf_key hpe]; rfl

theorem lsm_eq (d : DS) (fn : Fn) (l : List (K × Ver)) :
    l.filterMap (fun p => match p.1 with
      | .memento f a => if f = fn then (readMemento d f a).map (·.1) else none
      | _ => none)
    = ((l.filterMap (fun p => entryOf d p.1)).filter (fun p => p.1.1 == fn)).map (·.2.mem) := by
  rw [List.filter_filterMap, List.map_filterMap]
  apply filterMap_congr
  intro p _
  cases p.1 with
  | memento f a =>
    simp only [entryOf]
    cases readMemento d f a with
    | none => simp
    | some x =>
      obtain ⟨m, ck⟩ := x
      by_cases e : f = fn <;> simp [e, Option.filter]
  | _ => rfl

end FsBackend

end Memento.Store
