import MementoModel.Lemmas.RunnerInv
import MementoModel.Lemmas.AList

/-! Basic lemmas on the runner model, and the normal forms of `runLocal`, `runBatchWith` and `run` in whose terms the other
runner files speak. -/
namespace Memento.Runner

theorem St.get_disabled {s : St} (h : s.enabled = false) (k : Key) : s.get k = none := by
  simp [St.get, h]

theorem St.put_disabled {s : St} (h : s.enabled = false) (k : Key) (r : Rec) : s.put k r = s := by
  simp [St.put, h]

@[simp] theorem St.put_enabled (s : St) (k : Key) (r : Rec) : (s.put k r).enabled = s.enabled := by
  unfold St.put; split <;> rfl

@[simp] theorem St.put_trace (s : St) (k : Key) (r : Rec) : (s.put k r).trace = s.trace := by
  unfold St.put; split <;> rfl

@[simp] theorem St.get_setTrace (s : St) (t : List Key) (k : Key) :
    ({ s with trace := t } : St).get k = s.get k := rfl

theorem St.get_eq (s : St) (k : Key) : s.get k = if s.enabled then Store.alookup s.store k else none := rfl

theorem St.put_eq (s : St) (k : Key) (r : Rec) :
    s.put k r = if s.enabled then { s with store := Store.aset s.store k r } else s := rfl

theorem forget_eq (s : St) (k : Key) : forget s k = { s with store := Store.adel s.store k } := rfl

theorem St.get_put (s : St) (k k' : Key) (r : Rec) :
    (s.put k r).get k' = if k' = k then (if s.enabled then some r else none) else s.get k' := by
  cases he : s.enabled
  · simp [St.put_eq, St.get_eq, he]
  · simp only [St.put_eq, St.get_eq, he, if_true, Store.alookup_aset]

theorem St.get_put_self {s : St} (h : s.enabled = true) (k : Key) (r : Rec) : (s.put k r).get k = some r := by
  rw [St.get_put, if_pos rfl, if_pos h]

theorem St.get_put_ne (s : St) {k k' : Key} (h : k' ≠ k) (r : Rec) : (s.put k r).get k' = s.get k' := by
  rw [St.get_put, if_neg h]

theorem St.get_put_cases {s : St} {k k' : Key} {r x : Rec} (h : (s.put k r).get k' = some x) :
    (k' = k ∧ x = r ∧ s.enabled = true) ∨ (k' ≠ k ∧ s.get k' = some x) := by
  rw [St.get_put] at h
  by_cases hk : k' = k
  · rw [if_pos hk] at h
    cases he : s.enabled
    · rw [he] at h; cases h
    · rw [he, if_pos rfl] at h; cases h; exact .inl ⟨hk, rfl, rfl⟩
  · rw [if_neg hk] at h; exact .inr ⟨hk, h⟩

theorem forget_get (s : St) (k k' : Key) : (forget s k).get k' = if k' = k then none else s.get k' := by
  cases he : s.enabled
  · simp [forget_eq, St.get_eq, he]
  · simp only [forget_eq, St.get_eq, he, if_true, Store.alookup_adel]

theorem replay_replay (o : Outcome) : replay (replay o) = replay o := by
  cases o with
  | val v => rfl
  | exc c m =>
    simp only [replay]
    by_cases h : c = clsOpaque
    · simp [h, clsMemento, clsOpaque]
    · simp [h]

theorem Outcome.sim_refl (o : Outcome) : Outcome.sim o o := rfl
theorem Outcome.sim_symm {o o' : Outcome} (h : Outcome.sim o o') : Outcome.sim o' o := Eq.symm h
theorem Outcome.sim_trans {a b c : Outcome} (h : Outcome.sim a b) (h' : Outcome.sim b c) : Outcome.sim a c :=
  Eq.trans h h'
theorem Outcome.sim_replay (o : Outcome) : Outcome.sim (replay o) o := replay_replay o

theorem Outcome.sim_val_left {v : Option Val} {o : Outcome} (h : Outcome.sim (.val v) o) : o = .val v := by
  cases o with
  | val w => simp [Outcome.sim, replay] at h; simp [h]
  | exc c m => simp [Outcome.sim, replay] at h

theorem Outcome.sim_exc_inv {c m : Nat} {o' : Outcome} (h : Outcome.sim (.exc c m) o') :
    ∃ c' m', o' = .exc c' m' ∧ (if c = clsOpaque then clsMemento else c) = (if c' = clsOpaque then clsMemento else c') ∧ m = m' := by
  cases o' with
  | val w => have := Outcome.sim_val_left (Outcome.sim_symm h); cases this
  | exc c' m' =>
    refine ⟨c', m', rfl, ?_⟩
    simpa [Outcome.sim, replay] using h

theorem Outcome.sim_isExc {o o' : Outcome} (h : Outcome.sim o o') : o.isExc = o'.isExc := by
  cases o with
  | val v => rw [Outcome.sim_val_left h]
  | exc c m =>
    obtain ⟨c', m', rfl, _⟩ := Outcome.sim_exc_inv h
    rfl

/-- the frame a body starts with -/
def fr0 (key : Key) (p : Bool) : Frame := { key, prevent := p, invs := [], res := [], deps := [key.fn] }

/-- the record built from the final frame of a body -/
def mkRec (key : Key) (o : Outcome) (fr : Frame) : Rec :=
  { key, out := o, invs := fr.invs, res := fr.res, deps := fr.deps }

/-- what the caller of a *computed* call gets -/
def deliver (fl : Flags) : Outcome → Outcome
  | .exc c m => .exc c m
  | .val v => if fl.ignore then .val none else .val v

def isNonMemo : Outcome → Bool
  | .exc c _ => c == clsNonMemoized
  | _ => false

/-- the store after a computed call -/
def storeAfter (s1 : St) (key : Key) (o : Outcome) (r : Rec) : St :=
  if isNonMemo o then s1 else if (s1.get key).isSome then s1 else s1.put key r

theorem isNonMemo_deliver (fl : Flags) (o : Outcome) : isNonMemo (deliver fl o) = isNonMemo o := by
  cases o with
  | exc c m => rfl
  | val v => simp only [deliver]; split <;> rfl

theorem deliver_default (o : Outcome) : deliver {} o = o := by
  cases o <;> rfl

/-- the not-to-be-memoized class is neither opaque nor the replayed form of an opaque one -/
theorem isNonMemo_replay (o : Outcome) : isNonMemo (replay o) = isNonMemo o := by
  cases o with
  | val v => rfl
  | exc c m =>
    by_cases h : c = clsOpaque
    · rw [h]; rfl
    · simp only [replay, if_neg h]

theorem Outcome.sim_isNonMemo {o o' : Outcome} (h : Outcome.sim o o') : isNonMemo o = isNonMemo o' := by
  rw [← isNonMemo_replay o, ← isNonMemo_replay o']
  exact congrArg isNonMemo h

theorem serve_default (r : Rec) : serve r {} = replay r.out := rfl

theorem runLocal_hit {P : Prog} {exec} {s : St} {key : Key} {fl : Flags} {r : Rec} (h : s.get key = some r) :
    runLocal P exec s key fl = some (s, serve r fl, r) := by
  simp [runLocal, h]

theorem runLocal_miss {P : Prog} {exec} {s : St} {key : Key} {fl : Flags} (h : s.get key = none) :
    runLocal P exec s key fl =
      match exec (P.body key.fn key.arg) { s with trace := s.trace ++ [key] } (fr0 key fl.prevent) with
      | none => none
      | some (s1, o, fr) => some (storeAfter s1 key o (mkRec key o fr), deliver fl o, mkRec key o fr) := by
  unfold runLocal
  simp only [h, fr0]
  generalize exec (P.body key.fn key.arg) _ _ = x
  rcases x with _ | ⟨s1, v | ⟨c, m⟩, fr⟩
  · rfl
  · rfl
  · by_cases hc : c = clsNonMemoized
    · subst hc; rfl
    · simp [storeAfter, isNonMemo, deliver, mkRec, hc]

theorem runLocal_miss_inv {P : Prog} {exec} {s s2 : St} {key : Key} {fl : Flags} {o : Outcome} {r : Rec}
    (hg : s.get key = none) (h : runLocal P exec s key fl = some (s2, o, r)) :
    ∃ s1 ob fr1, exec (P.body key.fn key.arg) { s with trace := s.trace ++ [key] } (fr0 key fl.prevent) = some (s1, ob, fr1) ∧
      r = mkRec key ob fr1 ∧ o = deliver fl ob ∧ s2 = storeAfter s1 key ob r := by
  rw [runLocal_miss hg] at h
  split at h
  · cases h
  · rename_i s1 ob fr1 he
    cases h
    exact ⟨s1, ob, fr1, he, rfl, rfl, rfl⟩

@[simp] theorem effCtx_set (caller : Option Frame) (c : Ctx) : effCtx caller (.set c) = c := rfl

def undeclared (P : Prog) (caller : Option Frame) (fn : Fn) : Bool :=
  match caller with
  | some fr => !(P.explicit fr.key.fn) && fr.key.fn != fn && !(P.declared fr.key.fn fn)
  | none => false

def prevented (caller : Option Frame) : Bool :=
  match caller with
  | some fr => fr.prevent
  | none => false

theorem runBatchWith_eq (P : Prog) (exec) (s : St) (caller : Option Frame) (fn : Fn) (args : List Val)
    (ctx : CtxSpec) (fl : Flags) :
    runBatchWith P exec s caller fn args ctx fl =
      if undeclared P caller fn then some (s, .error (.exc clsUndeclared 0), [])
      else if prevented caller then some (s, .error (.exc clsRuntime 0), [])
      else
        match batchLoop P exec fl s (args.map (fun a => ((⟨fn, a, effCtx caller ctx⟩ : Key), s.get ⟨fn, a, effCtx caller ctx⟩))) with
        | none => none
        | some (s', os, rs) => some (s', .ok os, rs) := by
  simp only [runBatchWith, List.map_map]
  rfl

theorem runBatchWith_prevented {P : Prog} {exec} {s : St} {caller : Option Frame} {fn : Fn} {args : List Val}
    {ctx : CtxSpec} {fl : Flags} (hu : undeclared P caller fn = false) (hp : prevented caller = true) :
    runBatchWith P exec s caller fn args ctx fl = some (s, .error (.exc clsRuntime 0), []) := by
  rw [runBatchWith_eq, hu, hp]
  rfl

/-- the evaluator for nested calls at fuel `n` -/
def calleeAt (P : Prog) (n : Nat) : St → Frame → Fn → List Val → CtxSpec → Flags → Option BatchResult :=
  fun s' fr f as c f' => run P n s' (some fr) f as c f'

/-- the body evaluator at fuel `n` -/
def E (P : Prog) (n : Nat) : Body → St → Frame → Option (St × Outcome × Frame) := execBody (calleeAt P n)

theorem run_succ (P : Prog) (n : Nat) (s : St) (c : Option Frame) (fn : Fn) (args : List Val) (ctx : CtxSpec) (fl : Flags) :
    run P (n + 1) s c fn args ctx fl = runBatchWith P (E P n) s c fn args ctx fl := rfl

theorem Rec.same_symm {r r' : Rec} (h : Rec.same r r') : Rec.same r' r :=
  ⟨h.1.symm, Outcome.sim_symm h.2.1, h.2.2.1.symm, h.2.2.2.1.symm, fun f => (h.2.2.2.2 f).symm⟩

theorem Rec.same_trans {a b c : Rec} (h : Rec.same a b) (h' : Rec.same b c) : Rec.same a c :=
  ⟨h.1.trans h'.1, Outcome.sim_trans h.2.1 h'.2.1, h.2.2.1.trans h'.2.2.1, h.2.2.2.1.trans h'.2.2.2.1,
    fun f => (h.2.2.2.2 f).trans (h'.2.2.2.2 f)⟩

theorem mem_addDep (d : List Fn) (g f : Fn) : f ∈ addDep d g ↔ f ∈ d ∨ f = g := by
  unfold addDep
  split
  · rename_i h
    have hg : g ∈ d := by simpa using h
    constructor
    · exact .inl
    · rintro (h | h)
      · exact h
      · rw [h]; exact hg
  · simp

theorem mem_foldl_addDep (l : List Fn) : ∀ (d : List Fn) (f : Fn), f ∈ l.foldl addDep d ↔ f ∈ d ∨ f ∈ l := by
  induction l with
  | nil => intro d f; simp
  | cons g gs ih =>
    intro d f
    rw [List.foldl_cons, ih, mem_addDep, List.mem_cons, or_assoc]

theorem propagate_deps (fr : Frame) (r : Rec) (f : Fn) :
    f ∈ (propagate fr r).deps ↔ f ∈ fr.deps ∨ f = r.key.fn ∨ f ∈ r.deps := by
  simp only [propagate, mem_foldl_addDep, mem_addDep, or_assoc]

end Memento.Runner
