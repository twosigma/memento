import MementoModel.Model.ArgHash
import MementoModel.Lemmas.JsonLemmas
import MementoModel.Lemmas.AList
import Std.Data.String.ToInt

/-! `Fix` (the fixed points of `decode ∘ encode`) is closed under the constructors, so everything `decode` returns
is one. When no name is bound twice `effKw` is concatenation; for a presentation of a binding its result is a
permutation of the binding, and the key tokens do not depend on the order.
`Int.toInt?_repr` is from `Std.Data.String.ToInt` (Lean distribution). -/
namespace Memento.ArgHash
open Memento.Json

def isIntChars (cs : List Char) : Bool :=
  let ds := match cs with | '-' :: r => r | r => r
  !ds.isEmpty && ds.all Char.isDigit

theorem isIntTok_eq (t : String) : isIntTok t = isIntChars t.toList := rfl

theorem isIntChars_digits {cs : List Char} (hne : cs ≠ []) (h : ∀ c ∈ cs, c.isDigit = true) :
    isIntChars cs = true := by
  unfold isIntChars
  split
  · next r =>
    have := h '-' List.mem_cons_self
    exact absurd this (by decide)
  · cases cs with
    | nil => exact absurd rfl hne
    | cons c cs => simpa using h

theorem isIntChars_minus {cs : List Char} (hne : cs ≠ []) (h : ∀ c ∈ cs, c.isDigit = true) :
    isIntChars ('-' :: cs) = true := by
  cases cs with
  | nil => exact absurd rfl hne
  | cons c cs => simpa [isIntChars] using h

theorem isIntTok_intTok (z : Int) : isIntTok (intTok z) = true := by
  show isIntTok (Int.repr z) = true
  cases z with
  | ofNat m =>
    show isIntTok (Nat.repr m) = true
    rw [isIntTok_eq, Nat.toList_repr]
    exact isIntChars_digits Nat.toDigits_ne_nil
      (fun c hc => Nat.isDigit_of_mem_toDigits (by omega) (by omega) hc)
  | negSucc m =>
    show isIntTok ("-" ++ Nat.repr (m+1)) = true
    rw [isIntTok_eq, String.toList_append, Nat.toList_repr]
    exact isIntChars_minus Nat.toDigits_ne_nil
      (fun c hc => Nat.isDigit_of_mem_toDigits (by omega) (by omega) hc)

theorem intTok_toInt (z : Int) : (intTok z).toInt? = some z := Int.toInt?_repr z

/-- `m` is a fixed point of `normalize` -/
def Fix (m : Arg) : Prop := decode (encode m) = some m

theorem fix_none : Fix .none := rfl

theorem fix_bool (b : Bool) : Fix (.bool b) := rfl

theorem fix_str (s : String) : Fix (.str s) := rfl

theorem fix_int (z : Int) : Fix (.int z) := by
  simp only [Fix, encode, decode, isIntTok_intTok, intTok_toInt, if_true, Option.map_some]

theorem fix_float {t : String} (h : isIntTok t = false) : Fix (.float t) := by
  simp only [Fix, encode, decode, h, Bool.false_eq_true, if_false]

theorem lget_cons (k : String) (v : Option Arg) (ms : List (String × Option Arg)) (key : String) :
    lget ((k, v) :: ms) key = if k = key then some v else lget ms key :=
  Store.alookup_cons (k, v) ms key

theorem fix_date (iso : String) : Fix (.date iso) := by
  simp [Fix, encode, decode, decodeO, interpObj, lget_cons]

theorem fix_datetime (iso : String) : Fix (.datetime iso) := by
  simp [Fix, encode, decode, decodeO, interpObj, lget_cons]

theorem fix_list_iff (l : ArgList) : Fix (.list l) ↔ decodeL (encodeL l) = some l := by
  simp [Fix, encode, decode]

def strArgs : List String → ArgList
  | [] => .nil
  | s :: ss => .cons (.str s) (strArgs ss)

theorem decodeL_strList : ∀ names, decodeL (strList names) = some (strArgs names)
  | [] => rfl
  | s :: ss => by simp [strList, decodeL, strArgs, decode, decodeL_strList ss]

theorem strings_strArgs : ∀ names, (strArgs names).strings = some names
  | [] => rfl
  | s :: ss => by simp [strArgs, ArgList.strings, strings_strArgs ss]

theorem decode_str (s : String) : decode (.str s) = some (.str s) := rfl

theorem fix_fnref {qn : String} {pargs : ArgList} {pkw : ArgObj} {names : List String}
    (h1 : decodeL (encodeL pargs) = some pargs) (h2 : Fix (.dict pkw)) :
    Fix (.fnref qn pargs pkw names) := by
  have e2 : decode (.obj (encodeO pkw)) = some (.dict pkw) := h2
  have e3 : decode (.arr (strList names)) = some (.list (strArgs names)) := by
    simp [decode, decodeL_strList]
  -- `partialArgs` is `null` for the empty list, and `interpObj` reads `null` back as the empty list
  obtain ⟨pa, e1, hpa⟩ : ∃ pa, decode (if pargs.isEmpty then .null else .arr (encodeL pargs)) = some pa ∧
      (pa = .none ∧ pargs = .nil ∨ pa = .list pargs) := by
    cases pargs with
    | nil => exact ⟨.none, rfl, .inl ⟨rfl, rfl⟩⟩
    | cons a l => exact ⟨_, by simp [ArgList.isEmpty, decode, h1], .inr rfl⟩
  show decode (encode (.fnref qn pargs pkw names)) = _
  rw [encode, decode]
  simp only [decodeO, e1, e2, e3, decode_str]
  simp [interpObj, lget_cons, strings_strArgs]
  rcases hpa with ⟨rfl, rfl⟩ | rfl <;> rfl

/-- the members of a dictionary as `decodeO` returns them when every value decodes -/
def _root_.Memento.Codec.someVals (l : List (String × Arg)) : List (String × Option Arg) :=
  l.map (fun p => (p.1, some p.2))

theorem allSome_eq {ms : List (String × Option Arg)} {l : List (String × Arg)} (h : allSome ms = some l) :
    ms = Codec.someVals l := by
  fun_induction allSome ms generalizing l with
  | case1 => cases h; rfl
  | case2 k a r ih =>
    obtain ⟨l', hl', rfl⟩ := Option.map_eq_some_iff.mp h
    rw [ih hl']
    rfl
  | case3 k r => cases h

theorem allSome_someVals : ∀ l : List (String × Arg), allSome (Codec.someVals l) = some l
  | [] => rfl
  | (k, a) :: r => by
    show allSome ((k, some a) :: Codec.someVals r) = _
    simp [allSome, allSome_someVals r]

theorem toList_ofList : ∀ l : List (String × Arg), (ArgObj.ofList l).toList = l
  | [] => rfl
  | (k, a) :: r => by simp [ArgObj.ofList, ArgObj.toList, toList_ofList r]

theorem ofList_toList : ∀ o : ArgObj, ArgObj.ofList o.toList = o
  | .nil => rfl
  | .cons k a o => by simp [ArgObj.toList, ArgObj.ofList, ofList_toList o]

theorem decodeO_encodeO : ∀ o : ArgObj,
    decodeO (encodeO o) = o.toList.map (fun p => (p.1, decode (encode p.2)))
  | .nil => by simp [encodeO, decodeO, ArgObj.toList]
  | .cons k a o => by simp [encodeO, decodeO, ArgObj.toList, decodeO_encodeO o]

theorem decodeO_encodeO_of_fix {o : ArgObj} (h : ∀ p ∈ o.toList, Fix p.2) :
    decodeO (encodeO o) = Codec.someVals o.toList := by
  rw [decodeO_encodeO]
  exact List.map_congr_left (fun p hp => by rw [h p hp])

theorem fix_dict {o : ArgObj} (h : ∀ p ∈ o.toList, Fix p.2)
    (hm : lget (Codec.someVals o.toList) "_mementoType" = none) : Fix (.dict o) := by
  show decode (encode (.dict o)) = _
  rw [encode, decode, decodeO_encodeO_of_fix h, interpObj]
  simp only [hm, allSome_someVals, Option.map_some, ofList_toList]

theorem interpObj_fix {ms : List (String × Option Arg)} {n : Arg}
    (hms : ∀ p ∈ ms, ∀ m, p.2 = some m → Fix m) (h : interpObj ms = some n) : Fix n := by
  -- one goal per branch of `interpObj`, in its order
  refine interpObj.fun_cases_unfolding ms (fun r => r = some n → Fix n)
    ?fnref ?fnrefBadArgs ?fnrefBadField ?datetime ?datetimeNoIso ?date ?dateNoIso ?unknownTag ?dict h
  case fnref =>
    -- the lookups come from the last field to the first; `lget` unfolds to `Store.alookup`
    intro htag qn pa pkw pn hpn hpkw hpa hqn pargs names hnames hpargs h
    cases h
    have f1 := hms _ (Store.alookup_mem hpa) pa rfl
    refine fix_fnref ?_ (hms _ (Store.alookup_mem hpkw) _ rfl)
    split at hpargs
    · cases hpargs; rfl
    · cases hpargs; exact (fix_list_iff _).mp f1
    · cases hpargs
  case datetime => intro htag iso hiso h; cases h; exact fix_datetime iso
  case date => intro htag iso hiso h; cases h; exact fix_date iso
  case dict =>
    intro htag h
    obtain ⟨l, hl, rfl⟩ := Option.map_eq_some_iff.mp h
    have hms' := allSome_eq hl
    subst hms'
    refine fix_dict ?_ ?_ <;> rw [toList_ofList]
    · exact fun p hp => hms (p.1, some p.2) (List.mem_map_of_mem hp) p.2 rfl
    · exact htag
  case fnrefBadArgs | fnrefBadField | datetimeNoIso | dateNoIso | unknownTag => intros; contradiction

/- The hypothesis is taken by `fun`, not matched on: a match on it as well is compiled with its type, which depends
   on the value, in its motive. -/
mutual
  theorem decode_fix : ∀ (v : JVal) (n : Arg), decode v = some n → Fix n
    | .null => fun n h => by cases h; exact fix_none
    | .bool b => fun n h => by cases h; exact fix_bool b
    | .num t => fun n h => by
      simp only [decode] at h
      split at h
      · obtain ⟨z, _, rfl⟩ := Option.map_eq_some_iff.mp h
        exact fix_int z
      · next hi => cases h; exact fix_float (Bool.eq_false_iff.mpr hi)
    | .str s => fun n h => by cases h; exact fix_str s
    | .arr l => fun n h => by
      simp only [decode, Option.map_eq_some_iff] at h
      obtain ⟨al, hal, rfl⟩ := h
      exact (fix_list_iff _).mpr (decodeL_fix l al hal)
    | .obj o => fun n h => by
      simp only [decode] at h
      exact interpObj_fix (decodeO_fix o) h
  theorem decodeL_fix : ∀ (l : JList) (al : ArgList), decodeL l = some al → decodeL (encodeL al) = some al
    | .nil => fun al h => by cases h; rfl
    | .cons v l => fun al h => by
      simp only [decodeL] at h
      split at h
      · next a l' ha hl' =>
        cases h
        have f1 : decode (encode a) = some a := decode_fix v a ha
        simp [encodeL, decodeL, f1, decodeL_fix l l' hl']
      · simp at h
  theorem decodeO_fix : ∀ (o : JObj), ∀ p ∈ decodeO o, ∀ m, p.2 = some m → Fix m
    | .nil => fun p hp m hm => by simp [decodeO] at hp
    | .cons k v o => fun p hp m hm => by
      simp only [decodeO, List.mem_cons] at hp
      rcases hp with rfl | hp
      · exact decode_fix v m hm
      · exact decodeO_fix o p hp m hm
end

theorem kwHas_iff (m : KwMap) (k : String) : kwHas m k = true ↔ k ∈ m.map (·.1) := by
  simp only [kwHas, List.any_eq_true, List.mem_map, beq_iff_eq]

theorem kwHas_of_mem {m : KwMap} {p : String × Arg} (h : p ∈ m) : kwHas m p.1 = true :=
  (kwHas_iff m p.1).mpr (List.mem_map_of_mem h)

theorem kwHas_append (m m' : KwMap) (k : String) : kwHas (m ++ m') k = (kwHas m k || kwHas m' k) :=
  List.any_append

theorem kwHas_eq_false_of_nodup_append {l l' : KwMap} (h : ((l ++ l').map (·.1)).Nodup) {p : String × Arg}
    (hp : p ∈ l') : kwHas l p.1 = false := by
  rw [List.map_append, List.nodup_append] at h
  exact Bool.eq_false_iff.mpr fun hk => h.2.2 _ ((kwHas_iff l p.1).mp hk) _ (List.mem_map_of_mem hp) rfl

theorem filter_not_kwHas_eq_self {pk l : KwMap} (h : ∀ b ∈ l, kwHas pk b.1 = false) :
    l.filter (fun b => !kwHas pk b.1) = l :=
  List.filter_eq_self.mpr fun b hb => by rw [h b hb]; rfl

theorem kwSet_of_has {m : KwMap} {k : String} (v : Arg) (h : kwHas m k = true) :
    kwSet m k v = m.map (fun p => if p.1 == k then (k, v) else p) := if_pos h

theorem kwSet_fresh {m : KwMap} {k : String} (v : Arg) (h : k ∉ m.map (·.1)) : kwSet m k v = m ++ [(k, v)] :=
  if_neg (mt (kwHas_iff m k).mp h)

theorem kwSet_has (m : KwMap) (k : String) (v : Arg) : kwHas (kwSet m k v) k = true := by
  by_cases h : k ∈ m.map (·.1)
  · obtain ⟨p, hp, rfl⟩ := List.mem_map.mp h
    rw [kwSet_of_has v (kwHas_of_mem hp), kwHas_iff, List.map_map]
    exact List.mem_map.mpr ⟨p, hp, by simp⟩
  · rw [kwSet_fresh v h, kwHas_append]
    simp [kwHas]

theorem map_rebind_of_fresh {m : KwMap} {k : String} (h : k ∉ m.map (·.1)) (w : Arg) :
    m.map (fun p => if p.1 == k then (k, w) else p) = m := by
  refine (List.map_congr_left fun p hp => if_neg fun e => h ?_).trans (List.map_id' m)
  rw [← eq_of_beq e]
  exact List.mem_map_of_mem hp

theorem kwSet_kwSet_same (m : KwMap) (k : String) (v w : Arg) : kwSet (kwSet m k v) k w = kwSet m k w := by
  rw [kwSet_of_has w (kwSet_has m k v)]
  by_cases h : k ∈ m.map (·.1)
  · have hk := (kwHas_iff m k).mpr h
    rw [kwSet_of_has v hk, kwSet_of_has w hk, List.map_map]
    refine List.map_congr_left fun p _ => ?_
    by_cases hp : p.1 = k <;> simp [hp]
  · rw [kwSet_fresh v h, kwSet_fresh w h, List.map_append, map_rebind_of_fresh h]
    simp

theorem foldl_kwSet_fresh (l m : KwMap) (h : ((m ++ l).map (·.1)).Nodup) :
    l.foldl (fun m p => kwSet m p.1 p.2) m = m ++ l := by
  induction l generalizing m with
  | nil => simp
  | cons p l ih =>
    have h' : (((m ++ [p]) ++ l).map (·.1)).Nodup := by simpa using h
    have hk : p.1 ∉ m.map (·.1) := fun hm =>
      Bool.noConfusion (((kwHas_iff m p.1).mpr hm).symm.trans (kwHas_eq_false_of_nodup_append h List.mem_cons_self))
    rw [List.foldl_cons, kwSet_fresh p.2 hk, ih _ h']
    simp

theorem bindPos_eq_foldl (m : KwMap) (ns : List String) (as : List Arg) :
    bindPos m ns as = (ns.zip as).foldl (fun m p => kwSet m p.1 p.2) m := by
  induction ns generalizing m as with
  | nil => simp [bindPos]
  | cons n ns ih =>
    cases as with
    | nil => simp [bindPos]
    | cons a as => simp [bindPos, ih]

theorem kwGet_eq_alookup (m : KwMap) (k : String) : kwGet m k = Store.alookup m k := rfl

theorem kwGet_eq_of_perm {m m' : KwMap} (hp : m.Perm m') (hn : (m.map (·.1)).Nodup) (k : String) :
    kwGet m k = kwGet m' k :=
  Option.ext fun v => by
    rw [kwGet_eq_alookup, kwGet_eq_alookup, ← Store.mem_iff_alookup_of_nodup hn,
      ← Store.mem_iff_alookup_of_nodup ((hp.map _).nodup_iff.mp hn), hp.mem_iff]

theorem eq_of_keys_nodup {l : KwMap} (hn : (l.map (·.1)).Nodup) {p q : String × Arg}
    (hp : p ∈ l) (hq : q ∈ l) (e : p.1 = q.1) : p = q := by
  have h1 := (Store.mem_iff_alookup_of_nodup hn).mp hp
  rw [e, (Store.mem_iff_alookup_of_nodup hn).mp hq] at h1
  exact Prod.ext e (Option.some.inj h1).symm

theorem nodup_of_nodup_map {α β} (f : α → β) {l : List α} (h : (l.map f).Nodup) : l.Nodup :=
  List.Pairwise.of_map f (fun _ _ hne e => hne (congrArg f e)) h

theorem perm_filter_of_subset {B pk : KwMap} (hB : (B.map (·.1)).Nodup) (hpkN : (pk.map (·.1)).Nodup)
    (hpk : ∀ p ∈ pk, p ∈ B) : pk.Perm (B.filter (fun p => kwHas pk p.1)) := by
  have nB : B.Nodup := nodup_of_nodup_map _ hB
  have nP : pk.Nodup := nodup_of_nodup_map _ hpkN
  refine (List.perm_ext_iff_of_nodup nP (nB.sublist List.filter_sublist)).mpr ?_
  intro p
  simp only [List.mem_filter, kwHas_iff]
  constructor
  · intro hp; exact ⟨hpk p hp, List.mem_map_of_mem hp⟩
  · rintro ⟨hpB, hk⟩
    obtain ⟨q, hq, e⟩ := List.mem_map.mp hk
    rw [← eq_of_keys_nodup hB (hpk q hq) hpB e]; exact hq

theorem zip_fst_snd_append {α β} : ∀ (T D : List (α × β)), ((T ++ D).map (·.1)).zip (T.map (·.2)) = T
  | [], _ => List.zip_nil_right
  | p :: T, D => by rw [List.cons_append, List.map_cons, List.map_cons, List.zip_cons_cons, zip_fst_snd_append T D]

theorem effKw_fresh {params : List String} {pargs args : List Arg} {pkw kwargs : KwMap} {rem : List String}
    (hrem : params.filter (fun n => !kwHas (pkw ++ params.zip pargs) n) = rem)
    (h1 : pargs.length ≤ params.length) (h2 : args.length ≤ rem.length)
    (hn : ((pkw ++ params.zip pargs ++ rem.zip args ++ kwargs).map (·.1)).Nodup) :
    effKw params pargs pkw args kwargs = .ok (pkw ++ params.zip pargs ++ rem.zip args ++ kwargs) := by
  have hsub : ∀ l : KwMap, l.Sublist (pkw ++ params.zip pargs ++ rem.zip args ++ kwargs) → (l.map (·.1)).Nodup :=
    fun l hs => (hs.map _).nodup hn
  have e0 : pkw.foldl (fun m p => kwSet m p.1 p.2) [] = pkw := by
    rw [foldl_kwSet_fresh, List.nil_append]
    exact hsub _ (((List.prefix_append _ _).trans ((List.prefix_append _ _).trans (List.prefix_append _ _))).sublist)
  have e1 : bindPos pkw params pargs = pkw ++ params.zip pargs := by
    rw [bindPos_eq_foldl, foldl_kwSet_fresh]
    exact hsub _ (((List.prefix_append _ _).trans (List.prefix_append _ _)).sublist)
  have e2 : bindPos (pkw ++ params.zip pargs) rem args = pkw ++ params.zip pargs ++ rem.zip args := by
    rw [bindPos_eq_foldl, foldl_kwSet_fresh]
    exact hsub _ (List.prefix_append _ _).sublist
  unfold effKw
  simp only [e0, Nat.not_lt.mpr h1, if_false, e1, hrem, Nat.not_lt.mpr h2, e2, foldl_kwSet_fresh kwargs _ hn]

/-- `T`: partial positional arguments; `pk ⊆ D`: partial keyword arguments; of the rest `R` of `D` the first `r`
    positionally, the others as keyword arguments `kw` -/
theorem effKw_presentation {T D pk kw R : KwMap} (r : Nat) (hR : D.filter (fun p => !kwHas pk p.1) = R)
    (hn : ((T ++ D).map (·.1)).Nodup) (hpkN : (pk.map (·.1)).Nodup) (hpk : ∀ p ∈ pk, p ∈ D)
    (hkw : kw.Perm (R.drop r)) :
    ∃ m, effKw ((T ++ D).map (·.1)) (T.map (·.2)) pk ((R.take r).map (·.2)) kw = .ok m ∧ m.Perm (T ++ D) := by
  have hDn : (D.map (·.1)).Nodup := by
    rw [List.map_append, List.nodup_append] at hn; exact hn.2.1
  have h1 : (pk ++ R).Perm D :=
    hR ▸ ((perm_filter_of_subset hDn hpkN hpk).append_right _).trans (List.filter_append_perm _ _)
  have hL : (pk ++ T ++ R.take r ++ kw).Perm (T ++ D) := by
    have e1 : (pk ++ T ++ R.take r ++ kw).Perm (T ++ (pk ++ (R.take r ++ kw))) := by
      rw [List.append_assoc, List.append_assoc, ← List.append_assoc pk, ← List.append_assoc T]
      exact List.Perm.append_right _ List.perm_append_comm
    have e2 : (R.take r ++ kw).Perm R := by
      have := List.Perm.append_left (R.take r) hkw
      rwa [List.take_append_drop] at this
    exact e1.trans (List.Perm.append_left _ ((List.Perm.append_left _ e2).trans h1))
  -- the names still unbound after the partial arguments are those of `R`
  have erem : ((T ++ D).map (·.1)).filter (fun n => !kwHas (pk ++ T) n) = R.map (·.1) := by
    rw [List.filter_map, List.filter_append, ← hR]
    congr 1
    have hT : T.filter ((fun n => !kwHas (pk ++ T) n) ∘ (·.1)) = [] :=
      List.filter_eq_nil_iff.mpr fun p hp => by
        simp only [Function.comp, kwHas_append, kwHas_of_mem hp, Bool.or_true, Bool.not_true, Bool.false_eq_true,
          not_false_eq_true]
    rw [hT, List.nil_append]
    refine List.filter_congr fun p hp => ?_
    simp only [Function.comp, kwHas_append, kwHas_eq_false_of_nodup_append hn hp, Bool.or_false]
  have ezip : (R.map (·.1)).zip ((R.take r).map (·.2)) = R.take r := by
    have := zip_fst_snd_append (R.take r) (R.drop r)
    rwa [List.take_append_drop] at this
  have := effKw_fresh (pkw := pk) (kwargs := kw) (pargs := T.map (·.2)) (args := (R.take r).map (·.2))
    (params := (T ++ D).map (·.1)) (rem := R.map (·.1))
  rw [zip_fst_snd_append, ezip] at this
  refine ⟨_, this erem ?_ ?_ ((hL.map _).nodup_iff.mpr hn), hL⟩
  · simp
  · simp only [List.length_map, List.length_take]; exact Nat.min_le_right _ _

/-- a *narrow* presentation passes the parameters `i..j` positionally and the bindings from `j` on as `pk ++ kw`
    (partial keyword and keyword arguments, in any order) -/
structure NarrowRest (B : KwMap) (i j : Nat) (pk kw : KwMap) : Prop where
  filter_eq : (B.drop i).filter (fun b => !kwHas pk b.1) =
    (B.drop i).take (j - i) ++ (B.drop j).filter (fun b => !kwHas pk b.1)
  kw_perm : kw.Perm ((B.drop j).filter (fun b => !kwHas pk b.1))
  length_take : ((B.drop i).take (j - i)).length = j - i
  pk_nodup : (pk.map (·.1)).Nodup
  pk_mem : ∀ b ∈ pk, b ∈ B.drop i

theorem narrow_rest {B : KwMap} (hB : (B.map (·.1)).Nodup) {i j : Nat} (hij : i ≤ j) (hj : j ≤ B.length)
    {pk kw : KwMap} (hrest : (pk ++ kw).Perm (B.drop j)) : NarrowRest B i j pk kw := by
  have hsplit : (B.drop i).take (j - i) ++ B.drop j = B.drop i := by
    have := List.take_append_drop (j - i) (B.drop i)
    rwa [List.drop_drop, Nat.add_sub_cancel' hij] at this
  have hdn : (((B.drop i).take (j - i) ++ (pk ++ kw)).map (·.1)).Nodup := by
    refine ((List.Perm.append_left _ hrest).map _).nodup_iff.mpr ?_
    rw [hsplit]
    exact ((List.drop_sublist i B).map _).nodup hB
  have hpkkw : ((pk ++ kw).map (·.1)).Nodup :=
    ((List.sublist_append_right _ _).map _).nodup hdn
  refine ⟨?_, ?_, ?_, ((List.sublist_append_left _ _).map _).nodup hpkkw, fun b hb => ?_⟩
  · conv => lhs; rw [← hsplit]
    rw [List.filter_append, filter_not_kwHas_eq_self]
    intro b hb
    have := kwHas_eq_false_of_nodup_append ((List.perm_append_comm.map _).nodup_iff.mp hdn) hb
    rw [kwHas_append, Bool.or_eq_false_iff] at this
    exact this.1
  · have := hrest.filter (fun b => !kwHas pk b.1)
    rwa [List.filter_append, filter_not_kwHas_eq_self (fun b hb => kwHas_eq_false_of_nodup_append hpkkw hb),
      List.filter_eq_nil_iff.mpr (fun b hb => by rw [kwHas_of_mem hb]; exact Bool.noConfusion), List.nil_append] at this
  · exact List.length_take_of_le (by rw [List.length_drop]; exact Nat.sub_le_sub_right hj i)
  · rw [← hsplit]
    exact List.mem_append_right _ (hrest.mem_iff.mp (List.mem_append_left _ hb))

theorem serO_encodeO_ofList : ∀ l : List (String × Arg),
    serO (encodeO (ArgObj.ofList l)) = l.map (fun p => (p.1, ser (encode p.2)))
  | [] => by simp [ArgObj.ofList, encodeO, serO]
  | (k, a) :: r => by simp [ArgObj.ofList, encodeO, serO, serO_encodeO_ofList r]

theorem ser_dict_perm {m m' : KwMap} (hp : m.Perm m') (hn : (m.map (·.1)).Nodup) :
    ser (encode (.dict (ArgObj.ofList m))) = ser (encode (.dict (ArgObj.ofList m'))) := by
  simp only [encode, ser, serO_encodeO_ofList]
  rw [sortKV_eq_of_perm (hp.map _) (by rw [map_fst_map_snd (fun a => ser (encode a))]; exact hn)]

theorem withCtx_fresh {kw ctx : KwMap} (hne : ctx ≠ []) (hr : "_memento_context_args" ∉ kw.map (·.1)) :
    withCtx kw ctx = kw ++ [("_memento_context_args", .dict (ArgObj.ofList ctx))] := by
  unfold withCtx
  cases ctx with
  | nil => exact absurd rfl hne
  | cons c cs => simp [kwSet_fresh _ hr]

theorem keyTokens_perm {m m' : KwMap} (ctx : KwMap) (hp : m.Perm m') (hn : (m.map (·.1)).Nodup)
    (hr : "_memento_context_args" ∉ m.map (·.1)) : keyTokens m ctx = keyTokens m' ctx := by
  unfold keyTokens
  by_cases hc : ctx = []
  · subst hc
    simp only [withCtx, List.isEmpty_nil, if_true]
    exact ser_dict_perm hp hn
  · have hr' : "_memento_context_args" ∉ m'.map (·.1) := fun h => hr ((hp.map _).mem_iff.mpr h)
    rw [withCtx_fresh hc hr, withCtx_fresh hc hr']
    refine ser_dict_perm (hp.append_right _) ?_
    rw [List.map_append, List.nodup_append]
    refine ⟨hn, by simp, ?_⟩
    intro a ha b hb e
    simp only [List.map_cons, List.map_nil, List.mem_singleton] at hb
    exact hr (hb ▸ e ▸ ha)

end Memento.ArgHash
