import MementoModel.Lemmas.RunnerSim

/-! The hypotheses of C02/C10 on the program hold for the programs of the first-order syntax (`progOf`). -/
namespace Memento.Runner

theorem simList_sumSlots {os os' : List Outcome} (h : simList os os') : sumSlots os = sumSlots os' := by
  fun_induction simList os os' with
  | case1 => rfl
  | case2 o os o' os' ih =>
    have ih := ih h.2
    cases o with
    | val v =>
      rw [Outcome.sim_val_left h.1]
      cases v <;> simp only [sumSlots, ih]
    | exc c m =>
      obtain ⟨c', m', rfl, _⟩ := Outcome.sim_exc_inv h.1
      simp only [sumSlots, ih]
  | case3 => exact h.elim  -- lists of different lengths

theorem simList_firstExc {os os' : List Outcome} (h : simList os os') :
    (firstExc os = none ∧ firstExc os' = none) ∨
      ∃ e e', firstExc os = some e ∧ firstExc os' = some e' ∧ Outcome.sim e e' := by
  fun_induction simList os os' with
  | case1 => exact .inl ⟨rfl, rfl⟩
  | case2 o os o' os' ih =>
    cases o with
    | val v =>
      rw [Outcome.sim_val_left h.1]
      simp only [firstExc]
      exact ih h.2
    | exc c m =>
      obtain ⟨c', m', rfl, _⟩ := Outcome.sim_exc_inv h.1
      exact .inr ⟨_, _, rfl, rfl, h.1⟩
  | case3 => exact h.elim

theorem bsim_denoteStmts (d : FnDef) (a : Val) (stmts : List Stmt) (acc : Int) :
    BSim (denoteStmts d a stmts acc) (denoteStmts d a stmts acc) := by
  fun_induction denoteStmts d a stmts acc
  case case1 | case2 => exact BSim.ret rfl  -- no statement left
  case case3 ih => exact BSim.resource ih
  case case4 ih | case6 ih => exact ih  -- guard fails: skipped
  case case5 caught _ _ _ _ ihv ih0 ihc =>
    refine BSim.call (fun o o' h => ?_)
    cases o with
    | val v =>
      rw [Outcome.sim_val_left h]
      cases v
      · exact ih0
      · exact ihv _
    | exc c m =>
      obtain ⟨c', m', rfl, hc, hm⟩ := Outcome.sim_exc_inv h
      cases caught
      · exact BSim.ret h
      · simp only [if_true]
        rw [hc]
        exact ihc _
  case case7 raiseFirst _ _ _ _ ih =>
    refine BSim.batch (fun r r' h => ?_)
    cases r with
    | error e =>
      cases r' with
      | error e' => exact BSim.ret h
      | ok os' => exact h.elim
    | ok os =>
      cases r' with
      | error e' => exact h.elim
      | ok os' =>
        have hl : simList os os' := h
        cases raiseFirst
        · simp only [Bool.false_eq_true, if_false]
          rw [simList_sumSlots hl]
          exact ih _
        · simp only [if_true]
          rcases simList_firstExc hl with ⟨h1, h2⟩ | ⟨e, e', h1, h2, he⟩
          · rw [h1, h2, simList_sumSlots hl]
            exact ih _
          · rw [h1, h2]
            exact BSim.ret he

theorem wellBehaved_progOf (defs : List (Fn × FnDef)) (declared : List (Fn × Fn)) : WellBehaved (progOf defs declared) :=
  fun _ a => bsim_denoteStmts _ a _ 0

def Stmt.noPrevent : Stmt → Bool
  | .call _ _ _ fl _ _ => !fl.prevent
  | .batch _ _ _ fl _ _ => !fl.prevent
  | .resource _ => true

theorem noPreventB_denoteStmts (d : FnDef) (a : Val) (stmts : List Stmt) (acc : Int)
    (hn : ∀ st ∈ stmts, st.noPrevent = true) : NoPreventB (denoteStmts d a stmts acc) := by
  fun_induction denoteStmts d a stmts acc
  case case1 | case2 => exact NoPreventB.ret
  case case3 ih => exact NoPreventB.resource (ih (List.forall_mem_cons.1 hn).2)
  case case4 ih | case6 ih => exact ih (List.forall_mem_cons.1 hn).2
  case case5 fl caught _ _ _ _ ihv ih0 ihc =>
    obtain ⟨hst, hrest⟩ := List.forall_mem_cons.1 hn
    refine NoPreventB.call (by simpa [Stmt.noPrevent] using hst) (fun o => ?_)
    cases o with
    | val v =>
      cases v
      · exact ih0 hrest
      · exact ihv _ hrest
    | exc c m =>
      cases caught
      · exact NoPreventB.ret
      · exact ihc _ hrest
  case case7 fl raiseFirst _ _ _ _ ih =>
    obtain ⟨hst, hrest⟩ := List.forall_mem_cons.1 hn
    refine NoPreventB.batch (by simpa [Stmt.noPrevent] using hst) (fun r => ?_)
    cases r with
    | error e => exact NoPreventB.ret
    | ok os =>
      dsimp only
      split
      · exact NoPreventB.ret
      · exact ih _ hrest

/-- a program of the first-order syntax without `with_prevent_further_calls` makes no nested call with further calls
    prevented -/
theorem noPrevent_progOf (defs : List (Fn × FnDef)) (declared : List (Fn × Fn))
    (h : ∀ p ∈ defs, ∀ st ∈ p.2.stmts, st.noPrevent = true) : NoPrevent (progOf defs declared) := by
  intro f a
  refine noPreventB_denoteStmts _ a _ 0 ?_
  unfold lookupDef
  cases hf : defs.find? (fun p => p.1 == f) with
  | none => intro st hst; simp [emptyDef] at hst
  | some p => exact h p (List.mem_of_find?_eq_some hf)

end Memento.Runner
