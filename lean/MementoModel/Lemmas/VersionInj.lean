import MementoModel.Lemmas.VersionCong

/-! Equal versions ⇒ equal closures ⇒ equal meaning, for tracked programs. The hash enters in one lemma
(`serList_eq_of_version_eq`): equal versions are equal lists of digested objects in key order; the rest is about those objects
and what they say about the bindings. -/
namespace Memento.Version

/-- the value a definition computes, as a term over its code token, its argument and what it refers to:
    every feature of the definition and of everything beneath it is observable in the result -/
inductive Res
  | node (name : Name) (tok : Tok) (arg : Nat) (kids : List Res)
  | val (v : Tok)
  | undefined
  | untracked
  | fuel

def eval (P : Prog) : Nat → Name → Nat → Res
  | 0, _, _ => .fuel
  | k+1, n, a =>
    match lookup P n with
    | none => .undefined
    | some (.var (some v)) => .val v
    | some (.var none) => .untracked
    | some (.memento _ tok refs) => .node n tok a (refs.map (fun r => eval P k r a))
    | some (.plain _ tok refs) => .node n tok a (refs.map (fun r => eval P k r a))

theorem eval_congr {P P' : Prog} {S : Name → Prop} (hl : ∀ n, S n → lookup P' n = lookup P n)
    (hS : ∀ n d r, S n → lookup P n = some d → r ∈ d.refs → S r) (a : Nat) :
    ∀ k n, S n → eval P k n a = eval P' k n a := by
  intro k
  induction k with
  | zero => intro n _; rfl
  | succ k ih =>
    intro n hn
    unfold eval
    rw [hl n hn]
    cases hd : lookup P n with
    | none => rfl
    | some d =>
      have hr : ∀ r ∈ d.refs, eval P k r a = eval P' k r a := fun r hr => ih r (hS n d r hn hd hr)
      cases d with
      | var v => cases v <;> rfl
      | memento e tok refs => exact congrArg _ (List.map_congr_left hr)
      | plain b tok refs => exact congrArg _ (List.map_congr_left hr)

/-- the program class of C01: `f` is automatically versioned and everything named in the closure is a memento
    function (automatically or explicitly versioned), a plain function of the package, a variable of a
    supported type, or a name the modules do not define (a builtin such as `len`: an `UndefinedSymbol` rule) -/
structure Tracked (P : Prog) (f : Name) : Prop where
  root : ∃ tok refs, lookup P f = some (.memento none tok refs)
  refs : ∀ p r, FnTarget P f p → RefersTo P p r →
    (∃ e tok refs, lookup P r = some (.memento e tok refs)) ∨
    (∃ tok refs, lookup P r = some (.plain true tok refs)) ∨ (∃ v, lookup P r = some (.var (some v))) ∨
    lookup P r = none

/-- rules for undefined names contribute no digest and the digest of a variable does not cover its name (remark R2), so
    the theorem needs: a name that is undefined in one edition is not a *variable* in the other (it may become a function:
    function digests cover their names). Asked of every name of the two programs; the proof uses it for the references of the
    closure's functions (`Agree.mkNode_eq`). -/
def UndefVarStable (P P' : Prog) : Prop :=
  ∀ r, (lookup P r = none → ∀ v, lookup P' r ≠ some (.var (some v))) ∧
       (lookup P' r = none → ∀ v, lookup P r ≠ some (.var (some v)))

theorem UndefVarStable.symm {P P' : Prog} (h : UndefVarStable P P') : UndefVarStable P' P :=
  fun r => ⟨(h r).2, (h r).1⟩

theorem UndefVarStable.refl (P : Prog) : UndefVarStable P P := by
  intro r
  constructor <;> intro h v e <;> rw [h] at e <;> cases e

/-- the user's side of an explicit version: a function that carries the same explicit version string in two
    editions has the same definition in both (whoever edits an explicitly versioned function changes the string) -/
def Disciplined (P P' : Prog) : Prop :=
  ∀ g e tok refs tok' refs', lookup P g = some (.memento (some e) tok refs) →
    lookup P' g = some (.memento (some e) tok' refs') → tok = tok' ∧ refs = refs'

theorem Disciplined.symm {P P' : Prog} (h : Disciplined P P') : Disciplined P' P := by
  intro g e tok refs tok' refs' h1 h2
  obtain ⟨a, b⟩ := h g e tok' refs' tok refs h2 h1
  exact ⟨a.symm, b.symm⟩

theorem Disciplined.refl (P : Prog) : Disciplined P P := by
  intro g e tok refs tok' refs' h1 h2
  rw [h1] at h2; cases h2; exact ⟨rfl, rfl⟩

def explicitOf (P : Prog) : List (Name × List Char × Tok × List Name) :=
  P.filterMap fun nd =>
    match nd.2 with
    | .memento (some e) t r => some (nd.1, e, t, r)
    | _ => none

theorem disciplined_of_tables {P P' : Prog}
    (h : ∀ x ∈ explicitOf P, ∀ y ∈ explicitOf P', x.1 = y.1 → x.2.1 = y.2.1 → x.2.2 = y.2.2) : Disciplined P P' := by
  intro g e t r t' r' h1 h2
  have m1 : (g, e, t, r) ∈ explicitOf P := List.mem_filterMap.mpr ⟨_, lookup_some_mem h1, rfl⟩
  have m2 : (g, e, t', r') ∈ explicitOf P' := List.mem_filterMap.mpr ⟨_, lookup_some_mem h2, rfl⟩
  exact Prod.mk.inj (h _ m1 _ m2 rfl rfl)

theorem trackable_of_all {P : Prog} (h : P.all (fun nd => nd.2.trackable) = true) : Trackable P :=
  fun _ _ hl => List.all_eq_true.mp h _ (lookup_some_mem hl)

/-- `Tracked.refs` is `mkNode ≠ none` for the references of the closure; `Trackable` says it of every name -/
theorem tracked_of_trackable {P : Prog} {f : Name} (hroot : ∃ tok refs, lookup P f = some (.memento none tok refs))
    (hT : Trackable P) : Tracked P f := by
  refine ⟨hroot, fun p r _ _ => ?_⟩
  cases hm : mkNode P p r with
  | none => exact absurd hm (mkNode_ne_none_of_trackable hT)
  | some y =>
    obtain ⟨k, _, _⟩ := y
    have hb : BoundAs P r k := (mkNode_cases hm).2.2
    cases k with
    | mfn => exact Or.inl hb
    | fn => exact Or.inr (Or.inl hb)
    | gvar => exact Or.inr (Or.inr (Or.inl hb))
    | undef => exact Or.inr (Or.inr (Or.inr hb))

theorem Tracked.ref_cases {P : Prog} {f p r : Name} (hT : Tracked P f) (hp : FnTarget P f p) (href : RefersTo P p r) :
    expands P r = true ∨ (∃ v, lookup P r = some (.var (some v))) ∨ lookup P r = none := by
  rcases hT.refs p r hp href with h | h | hv | hn
  · exact Or.inl (expands_iff.mpr (Or.inl h))
  · exact Or.inl (expands_iff.mpr (Or.inr h))
  · exact Or.inr (Or.inl hv)
  · exact Or.inr (Or.inr hn)

theorem rule_target_fnTarget {P : Prog} {f : Name} {x : Node} (hx : x ∈ rules P id f) (hk : x.kind = .mfn ∨ x.kind = .fn) :
    FnTarget P f x.target :=
  ((mem_rules_nodeOK ordOK_id).mp hx).target_fnTarget hk

theorem rule_cases {P : Prog} {f : Name} (hroot : ∃ tok refs, lookup P f = some (.memento none tok refs)) {x : Node}
    (hx : x ∈ rules P id f) : BoundAs P x.target x.kind := by
  rcases (mem_rules_nodeOK ordOK_id).mp hx with rfl | ⟨p, _, _, hmk⟩
  · obtain ⟨tok, refs, hl⟩ := hroot
    exact ⟨none, tok, refs, hl⟩
  · exact (mkNode_cases hmk).2.2

/-- what a rule's hash is the digest of -/
def nodeSer (P : Prog) (x : Node) : Option Ser :=
  match x.kind, lookup P x.target with
  | .mfn, some (.memento none tok refs) => some (.code true x.target tok refs)
  | .mfn, some (.memento (some e) _ _) => some (.explicit x.target e)
  | .fn, some (.plain _ tok refs) => some (.code false x.target tok refs)
  | .gvar, some (.var (some v)) => some (.value v)
  | _, _ => none

theorem ruleHash_eq_map (H : Ser → List Char) (P : Prog) (x : Node) : ruleHash H P x = (nodeSer P x).map H := by
  unfold ruleHash nodeSer
  cases x.kind <;> cases lookup P x.target with
  | none => rfl
  | some d =>
    cases d with
    | memento e _ _ => cases e <;> rfl
    | plain _ _ _ => rfl
    | var v => cases v <;> rfl

theorem nodeSer_isSome {P : Prog} {f : Name} (hroot : ∃ tok refs, lookup P f = some (.memento none tok refs)) {x : Node}
    (hx : x ∈ rules P id f) : (nodeSer P x).isSome = !(x.kind == .undef) := by
  have hc := rule_cases hroot hx
  unfold nodeSer
  cases hk : x.kind with
  | undef => rfl
  | mfn =>
    obtain ⟨e, t, rs, hl⟩ := hk ▸ hc
    rw [hl]
    cases e <;> rfl
  | fn =>
    obtain ⟨t, rs, hl⟩ := hk ▸ hc
    rw [hl]
    rfl
  | gvar =>
    obtain ⟨v, hl⟩ := hk ▸ hc
    rw [hl]
    rfl

theorem nodeSer_inv {P : Prog} {x : Node} {s : Ser} (h : nodeSer P x = some s) :
    match s with
    | .code true g tok refs => x.target = g ∧ x.kind = .mfn ∧ lookup P g = some (.memento none tok refs)
    | .code false g tok refs => x.target = g ∧ x.kind = .fn ∧ ∃ b, lookup P g = some (.plain b tok refs)
    | .explicit g e => x.target = g ∧ x.kind = .mfn ∧ ∃ tok refs, lookup P g = some (.memento (some e) tok refs)
    | _ => True := by
  unfold nodeSer at h
  split at h
  · rename_i hk hl; cases h; exact ⟨rfl, hk, hl⟩
  · rename_i hk hl; cases h; exact ⟨rfl, hk, _, _, hl⟩
  · rename_i hk hl; cases h; exact ⟨rfl, hk, _, hl⟩
  · cases h; trivial
  · cases h

/-- the digested objects in key order -/
def serList (P : Prog) (f : Name) : List Ser := (sortedRules P id f).filterMap (nodeSer P)

theorem mem_serList {P : Prog} {f : Name} {s : Ser} : s ∈ serList P f ↔ ∃ x ∈ rules P id f, nodeSer P x = some s := by
  simp only [serList, List.mem_filterMap, mem_sortedRules]

def hashList (H : Ser → List Char) (P : Prog) (f : Name) : List (List Char) :=
  (sortedRules P id f).filterMap (ruleHash H P)

theorem versionInput_eq (H : Ser → List Char) (P : Prog) (f : Name) :
    versionInput H P id f = (hashList H P f).flatten := rfl

theorem hashList_eq_map (H : Ser → List Char) (P : Prog) (f : Name) : hashList H P f = (serList P f).map H := by
  unfold hashList serList
  rw [List.map_filterMap]
  exact Store.filterMap_congr fun x _ => ruleHash_eq_map H P x

theorem flatten_inj_uniform {k : Nat} (hk : 0 < k) : ∀ {l l' : List (List Char)},
    (∀ s ∈ l, s.length = k) → (∀ s ∈ l', s.length = k) → l.flatten = l'.flatten → l = l' := by
  have ne_nil : ∀ {a : List Char} {t : List (List Char)}, a.length = k → (a :: t).flatten ≠ [] := by
    intro a t ha h
    have hlen := congrArg List.length h
    simp only [List.flatten_cons, List.length_append, List.length_nil] at hlen
    omega
  intro l
  induction l with
  | nil =>
    intro l' _ h' h
    cases l' with
    | nil => rfl
    | cons s t => exact absurd h.symm (ne_nil (h' s List.mem_cons_self))
  | cons a t ih =>
    intro l' h1 h' h
    cases l' with
    | nil => exact absurd h (ne_nil (h1 a List.mem_cons_self))
    | cons b u =>
      simp only [List.flatten_cons] at h
      have hab : a.length = b.length := by
        rw [h1 a List.mem_cons_self, h' b List.mem_cons_self]
      obtain ⟨e1, e2⟩ := List.append_inj h hab
      subst e1
      rw [ih (fun s hs => h1 s (List.mem_cons_of_mem _ hs)) (fun s hs => h' s (List.mem_cons_of_mem _ hs)) e2]

theorem map_inj_cross {α β : Type} {f : α → β} {l l' : List α}
    (hf : ∀ a ∈ l, ∀ b ∈ l', f a = f b → a = b) (h : l.map f = l'.map f) : l = l' := by
  induction l generalizing l' with
  | nil => exact (List.map_eq_nil_iff.mp h.symm).symm
  | cons a l ih =>
    cases l' with
    | nil => cases h
    | cons b l' =>
      obtain ⟨e1, e2⟩ := List.cons.inj h
      rw [hf a List.mem_cons_self b List.mem_cons_self e1,
        ih (fun a ha b hb => hf a (List.mem_cons_of_mem _ ha) b (List.mem_cons_of_mem _ hb)) e2]

/-- what is hashed for the version of `f`: the objects of its rules and the string of their digests -/
def digested (H : Ser → List Char) (P : Prog) (f : Name) : List Ser :=
  .rules (versionInput H P id f) :: serList P f

/-- the hash is undone twice (version, rule digests); the one width cuts the unframed concatenation in between -/
theorem serList_eq_of_version_eq {H : Ser → List Char} {P P' : Prog} {f : Name} {w : Nat} (hpos : 0 < w)
    (hinj : ∀ a ∈ digested H P f, ∀ b ∈ digested H P' f, H a = H b → a = b)
    (hw : ∀ s ∈ serList P f ++ serList P' f, (H s).length = w)
    (hv : version H P id f = version H P' id f) : serList P f = serList P' f := by
  have h1 : ((serList P f).map H).flatten = ((serList P' f).map H).flatten := by
    rw [← hashList_eq_map, ← hashList_eq_map, ← versionInput_eq, ← versionInput_eq]
    exact Ser.rules.inj (hinj _ List.mem_cons_self _ List.mem_cons_self hv)
  have h2 : (serList P f).map H = (serList P' f).map H :=
    flatten_inj_uniform hpos (List.forall_mem_map.mpr fun s hs => hw s (List.mem_append_left _ hs))
      (List.forall_mem_map.mpr fun s hs => hw s (List.mem_append_right _ hs)) h1
  exact map_inj_cross (fun a ha b hb => hinj a (List.mem_cons_of_mem _ ha) b (List.mem_cons_of_mem _ hb)) h2

structure Agree (P P' : Prog) (f : Name) : Prop where
  tracked : Tracked P f
  tracked' : Tracked P' f
  disciplined : Disciplined P P'
  undefVar : UndefVarStable P P'
  sers : serList P f = serList P' f

theorem Agree.symm {P P' : Prog} {f : Name} (h : Agree P P' f) : Agree P' P f :=
  ⟨h.tracked', h.tracked, h.disciplined.symm, h.undefVar.symm, h.sers.symm⟩

theorem Agree.transfer {P P' : Prog} {f : Name} (h : Agree P P' f) {x : Node} (hx : x ∈ rules P id f) {s : Ser}
    (hs : nodeSer P x = some s) : ∃ x' ∈ rules P' id f, nodeSer P' x' = some s :=
  mem_serList.mp (h.sers ▸ mem_serList.mpr ⟨x, hx, hs⟩)

/-- the digested object of a function covers its name and its definition (for an explicit version: name and string, and
    `Disciplined` gives the definition) -/
theorem Agree.fn {P P' : Prog} {f g : Name} (h : Agree P P' f) (hg : FnTarget P f g) :
    FnTarget P' f g ∧ lookup P' g = lookup P g := by
  obtain ⟨x, hx, rfl, hk⟩ := exists_rule_of_fnTarget ordOK_id hg
  have hx := (mem_rules_iff ordOK_id).mpr hx
  have fin : ∀ {x' : Node}, x' ∈ rules P' id f → x'.target = x.target → (x'.kind = .mfn ∨ x'.kind = .fn) →
      lookup P' x.target = lookup P x.target → FnTarget P' f x.target ∧ lookup P' x.target = lookup P x.target :=
    fun hx' ht' hk' hl' => ⟨ht' ▸ rule_target_fnTarget hx' hk', hl'⟩
  have hc := rule_cases h.tracked.root hx
  rcases hk with hk | hk
  · obtain ⟨e, tok, refs, hl⟩ := hk ▸ hc
    cases e with
    | none =>
      obtain ⟨x', hx', hs'⟩ := h.transfer hx (s := .code true x.target tok refs) (by unfold nodeSer; rw [hk, hl])
      obtain ⟨ht', hk', hl'⟩ := nodeSer_inv hs'
      exact fin hx' ht' (Or.inl hk') (hl'.trans hl.symm)
    | some e =>
      obtain ⟨x', hx', hs'⟩ := h.transfer hx (s := .explicit x.target e) (by unfold nodeSer; rw [hk, hl])
      obtain ⟨ht', hk', tok', refs', hl'⟩ := nodeSer_inv hs'
      obtain ⟨rfl, rfl⟩ := h.disciplined x.target e tok refs tok' refs' hl hl'
      exact fin hx' ht' (Or.inl hk') (hl'.trans hl.symm)
  · obtain ⟨tok, refs, hl⟩ := hk ▸ hc
    obtain ⟨x', hx', hs'⟩ := h.transfer hx (s := .code false x.target tok refs) (by unfold nodeSer; rw [hk, hl])
    obtain ⟨ht', hk', b, hl'⟩ := nodeSer_inv hs'
    -- a plain function that has a rule is a function of the package
    obtain ⟨t3, r3, h3⟩ := hk' ▸ rule_cases h.tracked'.root hx'
    rw [ht', hl'] at h3
    cases h3
    exact fin hx' ht' (Or.inr hk') (hl'.trans hl.symm)

theorem Agree.mkNode_eq {P P' : Prog} {f p r : Name} (h : Agree P P' f)
    (hp : FnTarget P f p) (href : RefersTo P p r) : mkNode P' p r = mkNode P p r := by
  obtain ⟨hp', hlp⟩ := h.fn hp
  have href' : RefersTo P' p r := by
    obtain ⟨d, hd, hr⟩ := href
    exact ⟨d, hlp.trans hd, hr⟩
  rcases h.tracked.ref_cases hp href with he | hv
  · exact mkNode_congr (h.fn (fnTarget_step hp href he)).2 p
  rcases h.tracked'.ref_cases hp' href' with he' | hv'
  · exact (mkNode_congr (h.symm.fn (fnTarget_step hp' href' he')).2 p).symm
  -- a function on neither side: a variable or an undefined name on each, and `undefVar` excludes the mixed cases
  rcases hv with ⟨v, hl⟩ | hl
  · rcases hv' with ⟨v', hl'⟩ | hl'
    · rw [mkNode_of_boundAs (k := .gvar) ⟨v, hl⟩, mkNode_of_boundAs (k := .gvar) ⟨v', hl'⟩]
    · exact absurd hl ((h.undefVar r).2 hl' v)
  · rcases hv' with ⟨v', hl'⟩ | hl'
    · exact absurd hl' ((h.undefVar r).1 hl v')
    · rw [mkNode_of_boundAs (k := .undef) hl, mkNode_of_boundAs (k := .undef) hl']

theorem Agree.rules_iff {P P' : Prog} {f : Name} (h : Agree P P' f) (x : Node) :
    x ∈ rules P' id f ↔ x ∈ rules P id f :=
  rules_congr_fn ordOK_id ordOK_id (fun _ hp => ⟨(h.fn hp).2, fun _ href => h.mkNode_eq hp href⟩) x

theorem filterMap_pointwise {α β : Type} {f g : α → Option β} : ∀ {l : List α},
    (∀ x ∈ l, (f x).isSome = (g x).isSome) → l.filterMap f = l.filterMap g →
    ∀ x ∈ l, f x = g x := by
  intro l
  induction l with
  | nil => intro _ _ x hx; cases hx
  | cons a t ih =>
    intro hfg h
    have ha := hfg a List.mem_cons_self
    have iht := ih fun y hy => hfg y (List.mem_cons_of_mem _ hy)
    rw [List.filterMap_cons, List.filterMap_cons] at h
    match hfa : f a, hga : g a with
    | none, none =>
      rw [hfa, hga] at h
      exact List.forall_mem_cons.mpr ⟨hfa.trans hga.symm, iht h⟩
    | some fa, some ga =>
      rw [hfa, hga] at h
      obtain ⟨e1, e2⟩ := List.cons.inj h
      exact List.forall_mem_cons.mpr ⟨by rw [hfa, hga, e1], iht e2⟩
    | none, some _ => rw [hfa, hga] at ha; cases ha
    | some _, none => rw [hfa, hga] at ha; cases ha

/-- the two lists are equal and have their gaps (the rules of undefined names) at the same places -/
theorem Agree.nodeSer_eq {P P' : Prog} {f : Name} (h : Agree P P' f) {x : Node}
    (hx : x ∈ rules P id f) : nodeSer P x = nodeSer P' x := by
  have hh := h.sers
  unfold serList at hh
  rw [← sortedRules_congr h.rules_iff] at hh
  refine filterMap_pointwise ?_ hh x (mem_sortedRules.mpr ((h.rules_iff x).mpr hx))
  intro y hy
  have hy' := mem_sortedRules.mp hy
  rw [nodeSer_isSome h.tracked.root ((h.rules_iff y).mp hy'), nodeSer_isSome h.tracked'.root hy']

theorem Agree.lookup_eq {P P' : Prog} {f p r : Name} (h : Agree P P' f)
    (hp : FnTarget P f p) (href : RefersTo P p r) : lookup P' r = lookup P r := by
  have hmk := h.mkNode_eq hp href
  rcases h.tracked.ref_cases hp href with he | ⟨v, hl⟩ | hl
  · exact (h.fn (fnTarget_step hp href he)).2
  · -- a variable in both programs; its rule digests the value
    have hy := mkNode_of_boundAs (k := .gvar) ⟨v, hl⟩ p
    obtain ⟨v', hl'⟩ := (mkNode_cases (hmk.trans hy)).2.2
    have hx : ⟨.gvar, some p, r⟩ ∈ rules P id f := (mem_rules_nodeOK ordOK_id).mpr (Or.inr ⟨p, hp, href, hy⟩)
    have e := h.nodeSer_eq hx
    simp only [nodeSer, hl, hl', Option.some.injEq, Ser.value.injEq] at e
    rw [hl, hl', e]
  · rw [mkNode_of_boundAs (k := .undef) hl] at hmk
    exact ((mkNode_cases hmk).2.2 : lookup P' r = none).trans hl.symm

theorem Agree.lookup_clos {P P' : Prog} {f n : Name} (h : Agree P P' f)
    (hn : InClos P f n) : lookup P' n = lookup P n := by
  rcases hn with hn | ⟨p, hp, href⟩
  · exact (h.fn hn).2
  · exact h.lookup_eq hp href

theorem inClos_refs {P : Prog} {f n r : Name} {d : Def} (hT : Tracked P f) (hn : InClos P f n)
    (hd : lookup P n = some d) (hr : r ∈ d.refs) : InClos P f r := by
  rcases hn with hn | ⟨p, hp, href⟩
  · exact Or.inr ⟨n, hn, d, hd, hr⟩
  · rcases hT.ref_cases hp href with he | ⟨v, hl⟩ | hl
    · exact Or.inr ⟨n, fnTarget_step hp href he, d, hd, hr⟩
    · rw [hl] at hd
      cases hd
      cases hr
    · rw [hl] at hd
      cases hd

end Memento.Version
