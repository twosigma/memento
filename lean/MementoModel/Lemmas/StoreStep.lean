import MementoModel.Lemmas.StoreAbs

/-! Which part of the backend state an operation can touch, without any invariant: the read paths leave the store alone,
    every operation changes it as `DS.step` says and never the flag or the layout. -/
namespace Memento.Store
open Memento

namespace FsBackend

def SameStore (s s' : FsBackend) : Prop := s'.ds = s.ds ∧ s'.readOnly = s.readOnly ∧ s'.separate = s.separate

theorem SameStore.refl (s : FsBackend) : SameStore s s := ⟨rfl, rfl, rfl⟩

theorem SameStore.trans {a b c : FsBackend} (h1 : SameStore a b) (h2 : SameStore b c) : SameStore a c :=
  ⟨h2.1.trans h1.1, h2.2.1.trans h1.2.1, h2.2.2.trans h1.2.2⟩

theorem cachePut_eq_mapCache (s : FsBackend) (fn arg mem val size wr hr gen) :
    cachePut s fn arg mem val size wr hr gen =
      mapCache s fun c => Cache.put c (ckey fn arg) mem (objId val gen) size wr hr none := by
  obtain ⟨_, _, cache, _, _, _, _⟩ := s
  cases cache <;> rfl

theorem cachePut_same (s : FsBackend) (fn arg mem val size wr hr gen) :
    SameStore s (cachePut s fn arg mem val size wr hr gen) := by
  rw [cachePut_eq_mapCache]
  exact ⟨rfl, rfl, rfl⟩

theorem cachePut_heap (s : FsBackend) (fn arg mem val size wr hr gen) :
    (cachePut s fn arg mem val size wr hr gen).heap = s.heap := by
  rw [cachePut_eq_mapCache]
  rfl

theorem fetchMemento_same (s : FsBackend) (fn : Fn) (arg : Arg) : SameStore s (fetchMemento s fn arg).1 := by
  fun_cases fetchMemento s fn arg with
  | case1 hr => exact SameStore.refl s
  | case2 m ck hr =>
    have := cachePut_same { s with heap := aset s.heap m ⟨fn, arg, ck⟩ } fn arg m none 16 false false 0
    exact ⟨this.1, this.2.1, this.2.2⟩

theorem mergeMementos_same (l : List ((Fn × Arg) × Option Nat)) (s : FsBackend) :
    SameStore s (mergeMementos s l).1 := by
  fun_induction mergeMementos s l with
  | case1 s => exact SameStore.refl s
  | case2 s fn arg rest m s2 ms hrec ih => rw [hrec] at ih; exact ih
  | case3 s fn arg rest s1 m hf s2 ms hrec ih =>
    have hs1 := fetchMemento_same s fn arg
    rw [hf] at hs1
    rw [hrec] at ih
    exact hs1.trans ih

theorem getMemento_eq (s : FsBackend) (fn : Fn) (arg : Arg) :
    getMemento s fn arg = match cacheLookup s fn arg with
      | some m => (s, some m)
      | none => fetchMemento s fn arg := by
  unfold getMemento getMementos
  simp only [List.map_cons, List.map_nil]
  cases cacheLookup s fn arg with
  | some m => rfl
  | none => rfl

theorem getMemento_same (s : FsBackend) (fn : Fn) (arg : Arg) : SameStore s (getMemento s fn arg).1 := by
  rw [getMemento_eq]
  cases cacheLookup s fn arg with
  | some m => exact SameStore.refl s
  | none => exact fetchMemento_same s fn arg

theorem readResult_same (s : FsBackend) (m size : Nat) (wr : Bool) : SameStore s (readResult s m size wr).1 := by
  -- the body of `readResult`'s local `fromStore`, copied: it has to follow the model
  have hfrom : ∀ mi : MInfo, SameStore s (match loadResult s.ds mi.ck with
      | none => (s, none)
      | some v => ({ cachePut s mi.fn mi.arg m v size wr true s.nextObj with nextObj := s.nextObj + 1 }, some v) :
        FsBackend × Option (Option Bytes)).1 := by
    intro mi
    cases loadResult s.ds mi.ck with
    | none => exact SameStore.refl s
    | some v => exact cachePut_same s mi.fn mi.arg m v size wr true s.nextObj
  fun_cases readResult s m size wr with
  | case1 hm => exact SameStore.refl s
  | case2 mi hm fromStore hc => exact hfrom mi
  | case3 mi hm c hc c' v hr => exact ⟨rfl, rfl, rfl⟩
  | case4 mi hm fromStore c hc c' hr => exact hfrom mi

theorem isMemoized_same (s : FsBackend) (fn : Fn) (arg : Arg) : SameStore s (isMemoized s fn arg).1 := by
  fun_cases isMemoized s fn arg with
  | case1 hc => exact SameStore.refl s
  | case2 c hc c' hm => exact ⟨rfl, rfl, rfl⟩
  | case3 c hc c' hm => exact SameStore.refl s

/-- the operations that never write to the store, whatever the flag says -/
def isPassive : Op → Bool
  | .getm _ | .lookread _ _ | .ismem _ _ | .lsf | .lsm _ | .rmeta _ _ _ | .hold _ | .drop _ => true
  | _ => false

theorem step_same (s : FsBackend) (op : Op) (hp : isPassive op = true) : SameStore s (step s op).1 := by
  cases op with
  | getm ks => exact mergeMementos_same _ s
  | lookread fn arg =>
    simp only [step]
    have h1 := getMemento_same s fn arg
    rcases hg : getMemento s fn arg with ⟨s1, om⟩
    rw [hg] at h1
    cases om with
    | none => exact h1
    | some m =>
      simp only
      generalize sizeOf s1 _ = sz
      generalize wrOf s1 _ = w
      have h2 := readResult_same s1 m sz w
      rcases hr : readResult s1 m sz w with ⟨s2, ov⟩
      rw [hr] at h2
      cases ov <;> exact h1.trans h2
  | ismem fn arg => exact isMemoized_same s fn arg
  | lsf => exact SameStore.refl s
  | lsm fn => exact SameStore.refl s
  | rmeta fn arg k =>
    simp only [step]
    split
    · split <;> exact SameStore.refl s
    · exact SameStore.refl s
  | hold b => exact ⟨rfl, rfl, rfl⟩
  | drop b => exact ⟨rfl, rfl, rfl⟩
  | _ => cases hp

/-! `step` on the writing operations of a writable backend: the `else` branch of the flag test. -/

theorem step_memoize (s : FsBackend) (hw : s.readOnly = false) (fn arg ov mem val size wr) :
    step s (.memoize fn arg ov mem val size wr) =
      ({ cachePut s fn arg mem val size wr true with
          ds := ((codecStore s.ds ov val).1.output (.memento fn arg) (.mrec mem (codecStore s.ds ov val).2)).1,
          heap := aset s.heap mem ⟨fn, arg, (codecStore s.ds ov val).2⟩ }, .unit) := by
  -- the model reads store and heap off the state after `cachePut`
  rw [← (cachePut_same s fn arg mem val size wr true 0).1, ← cachePut_heap s fn arg mem val size wr true 0]
  exact if_neg (Bool.eq_false_iff.mp hw)

theorem step_fcall (s : FsBackend) (hw : s.readOnly = false) (fn : Fn) (arg : Arg) :
    step s (.fcall fn arg) = ({ mapCache s (fun c => Cache.forgetCall c (ckey fn arg)) with
      ds := s.ds.deleteWhere (fun k => k.call? == some (fn, arg)) }, .unit) :=
  if_neg (Bool.eq_false_iff.mp hw)

theorem step_ffn (s : FsBackend) (hw : s.readOnly = false) (fn : Fn) :
    step s (.ffn fn) = ({ mapCache s (fun c => Cache.forgetFunction c fn) with
      ds := s.ds.deleteWhere (fun k => k.fn? == some fn) }, .unit) :=
  if_neg (Bool.eq_false_iff.mp hw)

theorem step_fall (s : FsBackend) (hw : s.readOnly = false) :
    step s .fall = ({ mapCache s Cache.forgetEverything with
      ds := s.ds.deleteWhere (fun k => if s.separate then k.isMetaArea else true) }, .unit) :=
  if_neg (Bool.eq_false_iff.mp hw)

theorem step_wmeta (s : FsBackend) (hw : s.readOnly = false) (fn : Fn) (arg : Arg) (k : MKey) (b : Bytes) :
    step s (.wmeta fn arg k b) = ({ s with ds := (s.ds.output (.mdat fn arg k false) (.raw b)).1 }, .unit) :=
  if_neg (Bool.eq_false_iff.mp hw)

theorem step_store (s : FsBackend) (op : Op) :
    SameStore { s with ds := if s.readOnly then s.ds else DS.step s.separate s.ds op } (step s op).1 := by
  cases hp : isPassive op with
  | true =>
    have hds : DS.step s.separate s.ds op = s.ds := by
      cases op with
      | memoize | fcall | ffn | fall | wmeta => cases hp
      | _ => rfl
    have := step_same s op hp
    refine ⟨?_, this.2⟩
    rw [this.1]
    show s.ds = if s.readOnly then s.ds else _
    rw [hds, ite_self]
  | false =>
    cases hro : s.readOnly with
    | true =>
      -- the `then` branch of the flag test returns the state as it is
      have hs : (step s op).1 = s := by
        cases op with
        | memoize | fcall | ffn | fall | wmeta => exact congrArg Prod.fst (if_pos hro)
        | _ => cases hp
      rw [hs]
      exact ⟨rfl, hro, rfl⟩
    | false =>
      cases op with
      | memoize fn arg ov mem val sz wr =>
        rw [step_memoize s hro]
        exact ⟨rfl, (cachePut_same s fn arg mem val sz wr true 0).2.1.trans hro,
          (cachePut_same s fn arg mem val sz wr true 0).2.2⟩
      | fcall fn arg => rw [step_fcall s hro]; exact ⟨rfl, hro, rfl⟩
      | ffn fn => rw [step_ffn s hro]; exact ⟨rfl, hro, rfl⟩
      | fall => rw [step_fall s hro]; exact ⟨rfl, hro, rfl⟩
      | wmeta fn arg k b => rw [step_wmeta s hro]; exact ⟨rfl, hro, rfl⟩
      | _ => cases hp

theorem step_ds (s : FsBackend) (op : Op) :
    (step s op).1.ds = if s.readOnly then s.ds else DS.step s.separate s.ds op :=
  (step_store s op).1

def setRO (s : FsBackend) (b : Bool) : FsBackend := { s with readOnly := b }

theorem cacheLookup_setRO (s : FsBackend) (b : Bool) (fn : Fn) (arg : Arg) :
    cacheLookup (setRO s b) fn arg = cacheLookup s fn arg := rfl

end FsBackend

theorem MemBackend.step_ro (s : MemBackend) (op : Op) (h : s.readOnly = true) : (MemBackend.step s op).1 = s := by
  cases op with
  | memoize | fcall | ffn | fall | wmeta => exact congrArg Prod.fst (if_pos h)
  | lookread fn arg =>
    simp only [MemBackend.step]
    cases alookup s.mementos (fn, arg) <;> rfl
  | _ => rfl

end Memento.Store
