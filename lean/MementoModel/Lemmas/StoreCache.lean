import MementoModel.Lemmas.StoreStep
import MementoModel.Lemmas.CacheLemmas

/-! The invariant of the backend without the flag (`WF0`), its frame lemma, and what the backend's
    read helpers return and keep under it. -/
namespace Memento.Store
open Memento
open FsBackend

/-- the arithmetic of `objBytes_objId`; over `Nat` because `omega` does not look through `Bytes` -/
theorem objId_decode (b gen : Nat) (h : b + 1 < 1000000) :
    b + 1 + 1000000 * gen ≠ 0 ∧ (b + 1 + 1000000 * gen) % 1000000 - 1 = b := by
  rw [Nat.add_mul_mod_self_left, Nat.mod_eq_of_lt h]
  exact ⟨by omega, Nat.add_sub_cancel ..⟩

theorem objBytes_objId (val : Option Bytes) (gen : Nat) (h : ∀ b, val = some b → b + 1 < 1000000) :
    objBytes (objId val gen) = val := by
  cases val with
  | none => rfl
  | some b =>
    have := h b rfl
    unfold objBytes objId
    simp only
    rw [if_neg (objId_decode b gen this).1, (objId_decode b gen this).2]

theorem EntryOk.transfer {s s' : FsBackend} {k : Cache.Key} {e : Cache.Entry} (h : EntryOk s k e)
    (hst : storeEntry s'.ds k.fn k.arg = storeEntry s.ds k.fn k.arg)
    (hheap : ∀ mi, alookup s.heap e.mem = some mi → alookup s'.heap e.mem = some mi) : EntryOk s' k e := by
  obtain ⟨ck, vb, h1, h2, h3⟩ := h
  exact ⟨ck, vb, hst.trans h1, hheap _ h2, h3⟩

theorem RefOk.transfer {s s' : FsBackend} {k : Cache.Key} {v : Nat} (h : RefOk s k v)
    (hst : storeEntry s'.ds k.fn k.arg = storeEntry s.ds k.fn k.arg) : RefOk s' k v := by
  obtain ⟨m, ck, h1⟩ := h
  exact ⟨m, ck, hst.trans h1⟩

/-- `WF` without `writable`: no read path consults the flag -/
structure WF0 (s : FsBackend) : Prop where
  ds       : DSWF s.ds
  heapOk   : ∀ {m mi}, alookup s.heap m = some mi →
      ∀ {fn arg ck}, readMemento s.ds fn arg = some (m, ck) → fn = mi.fn ∧ arg = mi.arg ∧ ck = mi.ck
  memUnique : ∀ {fn arg fn' arg' m ck ck'}, readMemento s.ds fn arg = some (m, ck) →
      readMemento s.ds fn' arg' = some (m, ck') → fn = fn' ∧ arg = arg'
  cacheOk  : ∀ c, s.cache = some c → Coherent s c

theorem wf_iff (s : FsBackend) : WF s ↔ WF0 s ∧ s.readOnly = false :=
  ⟨fun h => ⟨⟨h.ds, fun hm => fun hr => h.heapOk _ _ hm _ _ _ hr, fun hr hr' => h.memUnique _ _ _ _ _ _ _ hr hr',
      h.cacheOk⟩, h.writable⟩,
   fun ⟨h, w⟩ => ⟨h.ds, w, fun _ _ hm _ _ _ hr => h.heapOk hm hr, fun _ _ _ _ _ _ _ hr hr' => h.memUnique hr hr',
      h.cacheOk⟩⟩

theorem WF.wf0 {s : FsBackend} (h : WF s) : WF0 s := ((wf_iff s).mp h).1

/-- for every operation but `memoize`: the store reads less or the same, the cache holds part of the old entries and
    references, each about a call whose store entry did not move -/
theorem WF0.frame {s s' : FsBackend} (h : WF0 s) (hds : DSWF s'.ds) (hheap : s'.heap = s.heap)
    (hread : ∀ fn arg p, readMemento s'.ds fn arg = some p → readMemento s.ds fn arg = some p)
    (hcache : ∀ c', s'.cache = some c' → ∃ c, s.cache = some c ∧ Cache.Inv c' ∧
      (∀ p ∈ c'.cache, p ∈ c.cache ∧ storeEntry s'.ds p.1.fn p.1.arg = storeEntry s.ds p.1.fn p.1.arg) ∧
      (∀ p ∈ c'.refs, p ∈ c.refs ∧ storeEntry s'.ds p.1.fn p.1.arg = storeEntry s.ds p.1.fn p.1.arg)) :
    WF0 s' := by
  refine ⟨hds, ?_, ?_, ?_⟩
  · intro m mi hm fn arg ck hr
    exact h.heapOk (hheap ▸ hm) (hread _ _ _ hr)
  · intro fn arg fn' arg' m ck ck' hr hr'
    exact h.memUnique (hread _ _ _ hr) (hread _ _ _ hr')
  · intro c' hc'
    obtain ⟨c, hc, hinv, hE, hR⟩ := hcache c' hc'
    have hco := h.cacheOk c hc
    exact ⟨fun k e hke => (hco.entryOk k e (hE _ hke).1).transfer (hE _ hke).2 (by rw [hheap]; exact fun _ x => x),
      fun k v hkv => (hco.refOk k v (hR _ hkv).1).transfer (hR _ hkv).2, hinv⟩

theorem WF0.frame_cache {s s' : FsBackend} (h : WF0 s) (hds : s'.ds = s.ds) (hheap : s'.heap = s.heap)
    (hcache : ∀ c', s'.cache = some c' → ∃ c, s.cache = some c ∧ Cache.Inv c' ∧
      (∀ p ∈ c'.cache, p ∈ c.cache) ∧ (∀ p ∈ c'.refs, p ∈ c.refs)) : WF0 s' := by
  refine h.frame (hds ▸ h.ds) hheap (fun fn arg p hp => hds ▸ hp) ?_
  intro c' hc'
  obtain ⟨c, hc, hinv, hE, hR⟩ := hcache c' hc'
  exact ⟨c, hc, hinv, fun p hp => ⟨hE p hp, by rw [hds]⟩, fun p hp => ⟨hR p hp, by rw [hds]⟩⟩

theorem WF0.congr {s s' : FsBackend} (h : WF0 s) (hds : s'.ds = s.ds) (hheap : s'.heap = s.heap)
    (hcache : s'.cache = s.cache) : WF0 s' :=
  h.frame_cache hds hheap (fun c' hc' =>
    ⟨c', hcache ▸ hc', (h.cacheOk c' (hcache ▸ hc')).inv, fun _ x => x, fun _ x => x⟩)

theorem WF0.setCache_touched {s : FsBackend} (h : WF0 s) {c c' : Cache.State} (hc : s.cache = some c)
    (ht : Cache.Touched c c') (hinv : Cache.Inv c') : WF0 { s with cache := some (Cache.prune c') } :=
  h.frame_cache rfl rfl (fun c'' e => by
    cases e
    exact ⟨c, hc, Cache.prune_inv hinv, fun _ hp => ht.cache ▸ hp, fun _ hp => ht.refs ▸ Cache.mem_prune_refs hp⟩)

theorem mapCache_cache {s : FsBackend} {f : Cache.State → Cache.State} {c' : Cache.State}
    (hc' : (mapCache s f).cache = some c') : ∃ c, s.cache = some c ∧ c' = Cache.prune (f c) := by
  cases hc : s.cache with
  | none => simp [mapCache, hc] at hc'
  | some c =>
    simp only [mapCache, hc, Option.map_some, Option.some.injEq] at hc'
    exact ⟨c, rfl, hc'.symm⟩

/-- the cache may be incoherent at the written key `k`; without a result (`hr = false`) `put` leaves the weak
    reference of `k` in place, so that one has to be right already -/
theorem coherent_put {s : FsBackend} {c : Cache.State} {k : Cache.Key} {mem v size : Nat} {wr hr : Bool}
    (hinv : Cache.Inv c)
    (hE : ∀ k' e, (k', e) ∈ c.cache → k' ≠ k → EntryOk s k' e)
    (hR : ∀ k' v', (k', v') ∈ c.refs → (hr = true → k' ≠ k) → RefOk s k' v')
    (hnew : EntryOk s k ⟨size, mem, v, hr⟩)
    (hnewref : hr = true → RefOk s k v) :
    Coherent s (Cache.prune (Cache.put c k mem v size wr hr none)) := by
  refine ⟨?_, ?_, Cache.prune_inv (Cache.put_inv k mem v size wr hr none hinv)⟩
  · intro k' e hke
    rw [Cache.prune_cache] at hke
    rcases Cache.mem_put_cache hke with h | ⟨h1, h2⟩
    · cases h; exact hnew
    · exact hE k' e h1 h2
  · intro k' v' hkv
    rcases Cache.mem_put_refs (Cache.mem_prune_refs hkv) with ⟨h1, h2⟩ | ⟨h1, h2⟩
    · cases h2; exact hnewref h1
    · exact hR k' v' h1 h2

theorem cachePut_wf0 {s : FsBackend} (h : WF0 s) (fn arg mem val size wr hr gen)
    (hnew : EntryOk s (ckey fn arg) ⟨size, mem, objId val gen, hr⟩)
    (hnewref : hr = true → RefOk s (ckey fn arg) (objId val gen)) :
    WF0 (cachePut s fn arg mem val size wr hr gen) := by
  rw [cachePut_eq_mapCache]
  refine ⟨h.ds, h.heapOk, h.memUnique, fun c' hc' => ?_⟩
  obtain ⟨c, hc, rfl⟩ := mapCache_cache hc'
  have hco := h.cacheOk c hc
  have hput := coherent_put (wr := wr) hco.inv (fun k' e hke _ => hco.entryOk k' e hke)
    (fun k' v' hkv _ => hco.refOk k' v' hkv) hnew hnewref
  exact ⟨hput.entryOk, hput.refOk, hput.inv⟩

/-- the heap only grows: an id it knows already names the same call -/
theorem WF0.heap_aset {s : FsBackend} (h : WF0 s) {fn arg m ck} (hr : readMemento s.ds fn arg = some (m, ck)) :
    WF0 { s with heap := aset s.heap m ⟨fn, arg, ck⟩ } := by
  have hgrow : ∀ m' mi, alookup s.heap m' = some mi → alookup (aset s.heap m ⟨fn, arg, ck⟩) m' = some mi := by
    intro m' mi hm'
    rw [alookup_aset]
    split
    · rename_i e
      obtain ⟨e1, e2, e3⟩ := h.heapOk (e ▸ hm') hr
      cases mi; cases e1; cases e2; cases e3; rfl
    · exact hm'
  refine ⟨h.ds, ?_, h.memUnique, ?_⟩
  · intro m' mi hm' fn' arg' ck' hr'
    have hmi : alookup (aset s.heap m ⟨fn, arg, ck⟩) m' = some mi := hm'
    rw [alookup_aset] at hmi
    split at hmi
    · rename_i e
      cases hmi; subst e
      obtain ⟨rfl, rfl⟩ := h.memUnique hr' hr
      rw [hr] at hr'; cases hr'; exact ⟨rfl, rfl, rfl⟩
    · exact h.heapOk hmi hr'
  · intro c hc
    have hco := h.cacheOk c hc
    exact ⟨fun k e hke => (hco.entryOk k e hke).transfer rfl (hgrow _),
      fun k v hkv => (hco.refOk k v hkv).transfer rfl, hco.inv⟩

theorem fetchMemento_spec {s : FsBackend} (h : WF0 s) (fn : Fn) (arg : Arg) :
    WF0 (fetchMemento s fn arg).1 ∧
    (fetchMemento s fn arg).2 = (readMemento s.ds fn arg).map (·.1) ∧
    ∀ m, (fetchMemento s fn arg).2 = some m →
      ∃ ck, readMemento s.ds fn arg = some (m, ck) ∧
        alookup (fetchMemento s fn arg).1.heap m = some ⟨fn, arg, ck⟩ := by
  fun_cases fetchMemento s fn arg with
  | case1 hr => exact ⟨h, by rw [hr]; rfl, fun m hm => by cases hm⟩
  | case2 m ck hr =>
    refine ⟨?_, by rw [hr]; rfl, ?_⟩
    · apply cachePut_wf0 (h.heap_aset hr)
      · exact ⟨ck, _, storeEntry_of_read hr, (alookup_aset ..).trans (if_pos rfl), fun e => by cases e⟩
      · intro e; cases e
    · intro m' hm'
      cases hm'
      exact ⟨ck, hr, by rw [cachePut_heap]; exact (alookup_aset s.heap m _ m).trans (if_pos rfl)⟩

theorem mergeMementos_spec (l : List ((Fn × Arg) × Option Nat)) (s : FsBackend) (h : WF0 s)
    (hx : ∀ x ∈ l, ∀ m, x.2 = some m → ∃ ck, readMemento s.ds x.1.1 x.1.2 = some (m, ck)) :
    WF0 (mergeMementos s l).1 ∧
    (mergeMementos s l).2 = l.map (fun x => (readMemento s.ds x.1.1 x.1.2).map (·.1)) := by
  fun_induction mergeMementos s l with
  | case1 s => exact ⟨h, rfl⟩
  | case2 s fn arg rest m s2 ms hrec ih =>
    obtain ⟨a, c⟩ := ih h (fun y hy => hx y (List.mem_cons_of_mem _ hy))
    obtain ⟨ck, hck⟩ := hx _ List.mem_cons_self m rfl
    simp only [hrec] at a c
    simp only at hck
    exact ⟨a, by simp only [List.map_cons, hck, Option.map_some, c]⟩
  | case3 s fn arg rest s1 m hf s2 ms hrec ih =>
    obtain ⟨f1, f3, _⟩ := fetchMemento_spec h fn arg
    have f2 := (fetchMemento_same s fn arg).1
    simp only [hf] at f1 f2 f3
    obtain ⟨a, c⟩ := ih f1 (fun y hy => by rw [f2]; exact hx y (List.mem_cons_of_mem _ hy))
    simp only [hrec, f2] at a c
    exact ⟨a, by simp only [List.map_cons, f3, c]⟩

theorem cacheLookup_read {s : FsBackend} (h : WF0 s) {fn arg m} (hm : cacheLookup s fn arg = some m) :
    ∃ ck, readMemento s.ds fn arg = some (m, ck) ∧ alookup s.heap m = some ⟨fn, arg, ck⟩ := by
  unfold cacheLookup at hm
  cases hc : s.cache with
  | none => rw [hc] at hm; cases hm
  | some c =>
    rw [hc] at hm
    obtain ⟨e, hl, rfl⟩ := Option.map_eq_some_iff.mp hm
    obtain ⟨ck, vb, h1, h2, _⟩ := (h.cacheOk c hc).entryOk _ e (alookup_mem hl)
    exact ⟨ck, (storeEntry_eq_some.mp h1).1, h2⟩

theorem getMementos_spec {s : FsBackend} (h : WF0 s) (ks : List (Fn × Arg)) :
    WF0 (getMementos s ks).1 ∧
    (getMementos s ks).2 = ks.map (fun k => (readMemento s.ds k.1 k.2).map (·.1)) := by
  unfold getMementos
  obtain ⟨a, c⟩ := mergeMementos_spec (ks.map (fun k => (k, cacheLookup s k.1 k.2))) s h (by
    intro x hx m hm
    obtain ⟨k, _, rfl⟩ := List.mem_map.mp hx
    obtain ⟨ck, hr, _⟩ := cacheLookup_read h hm
    exact ⟨ck, hr⟩)
  refine ⟨a, ?_⟩
  rw [c, List.map_map]
  rfl

theorem getMemento_spec {s : FsBackend} (h : WF0 s) (fn : Fn) (arg : Arg) :
    WF0 (getMemento s fn arg).1 ∧
    (getMemento s fn arg).2 = (readMemento s.ds fn arg).map (·.1) ∧
    ∀ m, (getMemento s fn arg).2 = some m →
      ∃ ck, readMemento s.ds fn arg = some (m, ck) ∧
        alookup (getMemento s fn arg).1.heap m = some ⟨fn, arg, ck⟩ := by
  rw [getMemento_eq]
  cases hcl : cacheLookup s fn arg with
  | some m =>
    obtain ⟨ck, hr, hheap⟩ := cacheLookup_read h hcl
    refine ⟨h, by rw [hr]; rfl, ?_⟩
    intro m' hm'
    cases hm'
    exact ⟨ck, hr, hheap⟩
  | none => exact fetchMemento_spec h fn arg

theorem readResult_spec {s : FsBackend} (h : WF0 s) {fn arg m ck} (size : Nat) (wr : Bool)
    (hheap : alookup s.heap m = some ⟨fn, arg, ck⟩) (hr : readMemento s.ds fn arg = some (m, ck)) :
    WF0 (readResult s m size wr).1 ∧
    (readResult s m size wr).2 = loadResult s.ds ck ∧ (loadResult s.ds ck).isSome := by
  have hck := h.ds.mOk.ckOk_of_read hr
  obtain ⟨val, hval⟩ := loadResult_of_ckOk hck
  have hsmall := h.ds.load_small ⟨hck, hval⟩
  have hst : storeEntry s.ds fn arg = some (m, ck, val) := by
    rw [storeEntry_of_read hr, hval]; rfl
  have hfrom : ∀ gen,
      WF0 { cachePut s fn arg m val size wr true gen with nextObj := s.nextObj + 1 } := by
    intro gen
    have hid := objBytes_objId val gen hsmall
    have : WF0 (cachePut s fn arg m val size wr true gen) := by
      apply cachePut_wf0 h
      · exact ⟨ck, val, hst, hheap, fun _ => hid⟩
      · intro _; exact ⟨m, ck, by rw [hid]; exact hst⟩
    exact this.congr rfl rfl rfl
  fun_cases readResult s m size wr with
  | case1 hm => rw [hheap] at hm; cases hm
  | case2 mi hm fromStore hc =>
    rw [hheap] at hm; cases hm
    simp only [fromStore, hval]
    exact ⟨hfrom _, trivial, rfl⟩
  | case4 mi hm fromStore c hc c' hrr =>
    rw [hheap] at hm; cases hm
    simp only [fromStore, hval]
    exact ⟨hfrom _, trivial, rfl⟩
  | case3 mi hm c hc c' v hrr =>
    rw [hheap] at hm; cases hm
    have hco := h.cacheOk c hc
    have hv : objBytes v = val := by
      have := Cache.readResult_value (s := c) (k := ckey fn arg) (v := v) (by rw [hrr])
      rcases this with ⟨e, he, hhv, rfl⟩ | hrf
      · obtain ⟨ck', vb, h1, _, h3⟩ := hco.entryOk _ e he
        cases hst.symm.trans h1
        exact h3 hhv
      · obtain ⟨m', ck', h1⟩ := hco.refOk _ v hrf
        cases hst.symm.trans h1
        rfl
    refine ⟨?_, by rw [hv, hval], by rw [hval]; rfl⟩
    have ht := Cache.readResult_touched c (ckey fn arg)
    have hinv := Cache.readResult_inv (ckey fn arg) hco.inv
    rw [hrr] at ht hinv
    exact h.setCache_touched hc ht hinv

theorem isMemoized_spec {s : FsBackend} (h : WF0 s) (fn : Fn) (arg : Arg) :
    WF0 (isMemoized s fn arg).1 ∧
    (isMemoized s fn arg).2 = (readMemento s.ds fn arg).isSome := by
  fun_cases isMemoized s fn arg with
  | case1 hc => exact ⟨h, h.ds.mOk.existsNV_memento fn arg⟩
  | case3 c hc c' hrr => exact ⟨h, h.ds.mOk.existsNV_memento fn arg⟩
  | case2 c hc c' hrr =>
    have hco := h.cacheOk c hc
    refine ⟨?_, ?_⟩
    · have ht := Cache.isMemoized_touched c (ckey fn arg)
      have hinv := Cache.isMemoized_inv (ckey fn arg) hco.inv
      rw [hrr] at ht hinv
      exact h.setCache_touched hc ht hinv
    · have hread : ∀ {x}, storeEntry s.ds fn arg = some x → true = (readMemento s.ds fn arg).isSome :=
        fun hx => by rw [(storeEntry_eq_some.mp hx).1]; rfl
      rcases Cache.isMemoized_true (s := c) (k := ckey fn arg) (by rw [hrr]) with ⟨e, he⟩ | ⟨v, hv⟩
      · obtain ⟨ck', vb, h1, _, _⟩ := hco.entryOk _ e he
        exact hread h1
      · obtain ⟨m', ck', h1⟩ := hco.refOk _ v hv
        exact hread h1

theorem mapCache_wf0 {s : FsBackend} (h : WF0 s) (f : Cache.State → Cache.State)
    (hf : ∀ c, Cache.Inv c → Cache.Inv (Cache.prune (f c)) ∧ (∀ p ∈ (f c).cache, p ∈ c.cache) ∧
      (∀ p ∈ (f c).refs, p ∈ c.refs)) :
    WF0 (mapCache s f) := by
  refine h.frame_cache rfl rfl ?_
  intro c' hc'
  obtain ⟨c, hc, rfl⟩ := mapCache_cache hc'
  obtain ⟨a, b, d⟩ := hf c (h.cacheOk c hc).inv
  exact ⟨c, hc, a, b, fun p hp => d p (Cache.mem_prune_refs hp)⟩

/-- the cache drops (at least) everything in scope, then the store deletes the scope -/
theorem forget_wf0 {s : FsBackend} (h : WF0 s) {sel : K → Bool} {f : Cache.State → Cache.State} (hsel : SelOk sel)
    (hf : ∀ c, Cache.Inv c → Cache.Inv (Cache.prune (f c)) ∧
      (∀ p ∈ (f c).cache, p ∈ c.cache ∧ sel (.memento p.1.fn p.1.arg) = false) ∧
      (∀ p ∈ (f c).refs, p ∈ c.refs ∧ sel (.memento p.1.fn p.1.arg) = false)) :
    WF0 { mapCache s f with ds := (mapCache s f).ds.deleteWhere sel } := by
  have hst : ∀ fn arg, sel (.memento fn arg) = false →
      storeEntry (s.ds.deleteWhere sel) fn arg = storeEntry s.ds fn arg := by
    intro fn arg hs; rw [storeEntry_deleteWhere h.ds hsel, hs]; rfl
  refine h.frame (h.ds.deleteWhere hsel) rfl ?_ ?_
  · intro fn arg p hp
    have hp : readMemento (s.ds.deleteWhere sel) fn arg = some p := hp
    rw [readMemento_deleteWhere] at hp
    split at hp
    · cases hp
    · exact hp
  · intro c' hc'
    obtain ⟨c, hc, rfl⟩ := mapCache_cache (s := s) hc'
    obtain ⟨a, b, d⟩ := hf c (h.cacheOk c hc).inv
    exact ⟨c, hc, a, fun p hp => ⟨(b p hp).1, hst _ _ (b p hp).2⟩,
      fun p hp => ⟨(d p (Cache.mem_prune_refs hp)).1, hst _ _ (d p (Cache.mem_prune_refs hp)).2⟩⟩

end Memento.Store
