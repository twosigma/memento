import MementoModel.Model.VersionCache
import MementoModel.Lemmas.VersionCong

/-! Coherence of the in-process version cache. The key lemma (`no_change_clos`): no recorded rule reports a change and no
watched symbol was re-bound ⇒ the current program binds the recorded closure as recorded, so the recorded version is the
fresh one. -/
namespace Memento.VersionCache
open Memento.Version

theorem lookupB_eq_alookup (sym : Sym) (n : Name) : lookupB sym n = Store.alookup sym n :=
  Store.alookup_unique lookupB (fun _ => rfl) (fun _ _ _ => rfl) sym n

theorem lookup_progOf (sym : Sym) (n : Name) : lookup (progOf sym) n = (lookupB sym n).map (·.d) := by
  rw [lookup_eq_alookup, lookupB_eq_alookup]
  exact Store.alookup_map_val sym (fun _ b => b.d) n

theorem lookupB_bind (sym : Sym) (n : Name) (b : Bound) (m : Name) :
    lookupB (bind sym n b) m = if n = m then some b else lookupB sym m := by
  rw [lookupB_eq_alookup, lookupB_eq_alookup, show bind sym n b = Store.aset sym n b from rfl, Store.alookup_aset]
  simp only [eq_comm]

theorem lookupB_mem {sym : Sym} {n : Name} {b : Bound} (h : lookupB sym n = some b) : (n, b) ∈ sym :=
  Store.alookup_mem (lookupB_eq_alookup sym n ▸ h)

def StampInj (hist : List Bound) : Prop := ∀ b ∈ hist, ∀ b' ∈ hist, b.stamp = b'.stamp → b = b'

/-- What an instance remembers is true of some earlier symbol table `sym0` whose objects are all in the history. Stamps
    identify the objects of one history, so a snapshot or watched symbol that reports no change against the current table
    means: the same object as in `sym0`. `nover`: rules come with a version only. -/
structure InstOK (H : Ser → List Char) (hist : List Bound) (inst : Inst) : Prop where
  ok : ∀ v, inst.cver = some v → ∃ sym0 : Sym,
        (∀ n b, lookupB sym0 n = some b → b ∈ hist) ∧
        (∃ b, lookupB sym0 inst.name = some b ∧ b.stamp = inst.stamp) ∧
        v = version H (progOf sym0) id inst.name ∧
        inst.snaps = (sortedRules (progOf sym0) id inst.name).map (mkSnap sym0) ∧
        inst.watch = watchOf sym0 inst.name
  nover : inst.cver = none → inst.snaps = []

theorem InstOK.mono {H : Ser → List Char} {hist hist' : List Bound} {inst : Inst} (h : InstOK H hist inst)
    (hsub : ∀ b ∈ hist, b ∈ hist') : InstOK H hist' inst := by
  refine ⟨?_, h.nover⟩
  intro v hv
  obtain ⟨sym0, h1, h2, h3, h4, h5⟩ := h.ok v hv
  exact ⟨sym0, fun n b hb => hsub b (h1 n b hb), h2, h3, h4, h5⟩

/-- everything but `.var none` (which no event creates): a definition gets a hash rule or is a function of another
    package, whose symbol is watched without a rule -/
def watchable (d : Def) : Bool := d.trackable || isForeign d

/-- `hist` (ghost) holds every object ever bound. `gen`, `cache` and `locked` occur nowhere: they decide when a version is
    recomputed, not what is answered. -/
structure Inv (H : Ser → List Char) (s : St) : Prop where
  inj : StampInj s.hist
  symHist : ∀ n b, lookupB s.sym n = some b → b ∈ s.hist
  below : ∀ b ∈ s.hist, b.stamp < s.next
  track : ∀ b ∈ s.hist, watchable b.d = true
  insts : ∀ inst ∈ s.insts, InstOK H s.hist inst

theorem inv_init (H : Ser → List Char) : Inv H {} := by
  refine ⟨?_, ?_, ?_, ?_, ?_⟩
  · intro b hb; cases hb
  · intro n b h; simp [lookupB] at h
  · intro b hb; cases hb
  · intro b hb; cases hb
  · intro i hi; cases hi

theorem lookupB_eq_of_stamp {hist : List Bound} (hinj : StampInj hist) {sym sym0 : Sym}
    (hs : ∀ n b, lookupB sym n = some b → b ∈ hist) (h0 : ∀ n b, lookupB sym0 n = some b → b ∈ hist)
    {n : Name} {b b0 : Bound} (hb : lookupB sym n = some b) (hb0 : lookupB sym0 n = some b0) (hst : b.stamp = b0.stamp) :
    lookupB sym n = some b0 := by
  rw [hb, hinj _ (hs _ _ hb) _ (h0 _ _ hb0) hst]

theorem no_change_rule {hist : List Bound} (hinj : StampInj hist) {sym sym0 : Sym}
    (hs : ∀ n b, lookupB sym n = some b → b ∈ hist) (h0 : ∀ n b, lookupB sym0 n = some b → b ∈ hist)
    {x : Node} {p : Name} (hpar : x.parent = some p) (hc : BoundAs (progOf sym0) x.target x.kind)
    (hd : didChange sym (mkSnap sym0 x) = false) :
    (lookupB sym x.target).map (·.d) = (lookupB sym0 x.target).map (·.d) := by
  have same : ∀ {b b0}, lookupB sym x.target = some b → lookupB sym0 x.target = some b0 → b.stamp = b0.stamp →
      (lookupB sym x.target).map (·.d) = (lookupB sym0 x.target).map (·.d) :=
    fun hb hb0 hst => by rw [lookupB_eq_of_stamp hinj hs h0 hb hb0 hst, hb0]
  unfold didChange mkSnap at hd
  cases hk : x.kind with
  | undef =>
    have hl : BoundAs (progOf sym0) x.target .undef := hk ▸ hc
    rw [BoundAs, lookup_progOf, Option.map_eq_none_iff] at hl
    simp only [hl, hk, Option.isSome_eq_false_iff, Option.isNone_iff_eq_none] at hd
    rw [hl, hd]
  | mfn =>
    obtain ⟨e, t, rs, hl⟩ := hk ▸ hc
    rw [lookup_progOf] at hl
    obtain ⟨b0, hb0, _⟩ := Option.map_eq_some_iff.mp hl
    simp only [hb0, hk, hpar] at hd
    split at hd
    · rename_i b hb
      simp only [Bool.not_eq_false', Bool.and_eq_true, beq_iff_eq, Option.some.injEq] at hd
      exact same hb hb0 hd.2
    · cases hd
  | fn =>
    obtain ⟨t, rs, hl⟩ := hk ▸ hc
    rw [lookup_progOf] at hl
    obtain ⟨b0, hb0, _⟩ := Option.map_eq_some_iff.mp hl
    simp only [hb0, hk] at hd
    split at hd
    · rename_i b hb
      simp only [Bool.not_eq_false', beq_iff_eq, Option.some.injEq] at hd
      exact same hb hb0 hd
    · cases hd
  | gvar =>
    obtain ⟨v, hl⟩ := hk ▸ hc
    rw [lookup_progOf] at hl
    obtain ⟨b0, hb0, hd0⟩ := Option.map_eq_some_iff.mp hl
    simp only [hb0, hk, hd0] at hd
    split at hd
    · rename_i st w hb
      simp only [Bool.not_eq_false', beq_iff_eq, Option.some.injEq] at hd
      rw [hb, hb0, Option.map_some, Option.map_some, hd0, hd]
    · cases hd

/-- **the key lemma.** The root by its stamp; a reference with a rule by `no_change_rule`; a reference without a rule
    resolves to a function of another package in the recorded program and is on the watch list. -/
theorem no_change_clos {hist : List Bound} (hinj : StampInj hist) (hW : ∀ b ∈ hist, watchable b.d = true)
    {sym sym0 : Sym} {f : Name}
    (hs : ∀ n b, lookupB sym n = some b → b ∈ hist) (h0 : ∀ n b, lookupB sym0 n = some b → b ∈ hist)
    (hroot : ∃ b b0, lookupB sym f = some b ∧ lookupB sym0 f = some b0 ∧ b.stamp = b0.stamp)
    (hnc : ∀ x ∈ rules (progOf sym0) id f, didChange sym (mkSnap sym0 x) = false)
    (hnw : ∀ w ∈ watchOf sym0 f, watchChanged sym w = false) {n : Name} (hn : InClos (progOf sym0) f n) :
    lookup (progOf sym) n = lookup (progOf sym0) n := by
  rw [lookup_progOf, lookup_progOf]
  rcases inClos_cases hn with rfl | ⟨p, hp, href⟩
  · obtain ⟨b, b0, hb, hb0, hst⟩ := hroot
    rw [lookupB_eq_of_stamp hinj hs h0 hb hb0 hst, hb0]
  cases hmk : mkNode (progOf sym0) p n with
  | some x =>
    obtain ⟨rfl, hpar, hc⟩ := mkNode_cases hmk
    exact no_change_rule hinj hs h0 hpar hc (hnc x ((mem_rules_nodeOK ordOK_id).mpr (Or.inr ⟨p, hp, href, hmk⟩)))
  | none =>
    have hfor := mkNode_eq_none hmk
    rw [lookup_progOf] at hfor
    cases hb0 : lookupB sym0 n with
    | none => simp [hb0] at hfor
    | some b0 =>
      have hfor : isForeign b0.d = true := by
        have hw := hW b0 (h0 n b0 hb0)
        simp only [hb0, Option.map_some, Option.some.injEq] at hfor
        rcases hfor with ⟨t, rs, hfor⟩ | hfor
        · rw [hfor]; rfl
        · rw [hfor] at hw; cases hw
      obtain ⟨xp, hxp, rfl, hkp⟩ := exists_rule_of_fnTarget ordOK_id hp
      obtain ⟨d, hd, hr⟩ := href
      have hmem : (n, b0.stamp) ∈ watchOf sym0 f := by
        refine List.mem_flatMap.mpr ⟨xp.target, List.mem_map.mpr ⟨xp, List.mem_filter.mpr
          ⟨(mem_rules_iff ordOK_id).mpr hxp, by simpa using hkp⟩, rfl⟩, ?_⟩
        rw [hd]
        exact List.mem_filterMap.mpr ⟨n, hr, by simp [hb0, hfor]⟩
      have hch := hnw _ hmem
      unfold watchChanged at hch
      split at hch
      · rename_i b hb
        simp only [Bool.not_eq_false', beq_iff_eq] at hch
        rw [lookupB_eq_of_stamp hinj hs h0 hb hb0 hch]
      · cases hch

theorem inv_recompute {H : Ser → List Char} {s : St} (h : Inv H s) {i : Nat} {inst : Inst}
    (hroot : ∃ b, lookupB s.sym inst.name = some b ∧ b.stamp = inst.stamp) :
    Inv H (recompute H s i inst).1 := by
  unfold recompute
  refine { h with insts := ?_ }
  intro y hy
  rcases List.mem_or_eq_of_mem_set hy with hy | rfl
  · exact h.insts y hy
  · refine ⟨?_, ?_⟩
    · intro v hv
      simp only [Option.some.injEq] at hv
      dsimp only  -- reduce the projections of the new record: the `rfl`s then compare equal terms without unfolding
      exact ⟨s.sym, h.symHist, hroot, hv.symm, rfl, rfl⟩
    · intro hv; simp at hv

theorem no_change_version {H : Ser → List Char} {s : St} (hinv : Inv H s) {inst : Inst} (hmem : inst ∈ s.insts)
    (hlive : live s inst) {c : List Char} (hc : inst.cver = some c)
    (hnc : inst.snaps.any (didChange s.sym) = false) (hnw : inst.watch.any (watchChanged s.sym) = false) :
    version H (progOf s.sym) id inst.name = c := by
  obtain ⟨sym0, h0, ⟨b0, hb0, hst0⟩, hv, hsn, hwt⟩ := (hinv.insts inst hmem).ok c hc
  obtain ⟨b, hb, hst, _⟩ := hlive
  rw [hv]
  refine version_congr H ordOK_id ordOK_id fun n =>
    no_change_clos hinv.inj hinv.track hinv.symHist h0 ⟨b, b0, hb, hb0, hst.trans hst0.symm⟩ ?_ ?_
  · intro x hx
    simpa using List.any_eq_false.mp hnc _ (hsn ▸ List.mem_map.mpr ⟨x, mem_sortedRules.mpr hx, rfl⟩)
  · intro w hw
    simpa using List.any_eq_false.mp hnw w (hwt ▸ hw)

/-- What `q = query H s i` is for an instance that still wraps the object its name is bound to, with the path conditions a
    proof needs. Why a version is recomputed is irrelevant (the answer is fresh): three branches, one outcome. -/
inductive QueryOutcome (H : Ser → List Char) (s : St) (i : Nat) (inst : Inst) (b : Bound) (q : St × Option (List Char)) :
    Prop
  | explicit {e : List Char} {t : Tok} {r : List Name} (hd : b.d = .memento (some e) t r) (h : q = (s, some e))
  | frozen {c : List Char} (hne : ∀ e t r, b.d ≠ .memento (some e) t r) (hl : s.locked = true) (hc : inst.cver = some c)
      (h : q = (s, some c))
  | recomputed (g : Nat) (hne : ∀ e t r, b.d ≠ .memento (some e) t r) (hnf : (s.locked && inst.cver.isSome) = false)
      (h : q = ((recompute H { s with gen := g } i inst).1, some (recompute H { s with gen := g } i inst).2))
  | unchanged {c : List Char} (hne : ∀ e t r, b.d ≠ .memento (some e) t r)
      (hc : inst.cver = some c) (hnc : inst.snaps.any (didChange s.sym) = false)
      (hnw : inst.watch.any (watchChanged s.sym) = false) (h : q = (s, some c))
  /-- rules but no version: the cached version is taken; impossible under `Inv` (`Inv.not_filled`) -/
  | filled (v : List Char) (hne : ∀ e t r, b.d ≠ .memento (some e) t r) (hc : inst.cver = none)
      (hs : inst.snaps.isEmpty = false)
      (h : q = ({ s with insts := setInst s.insts i { inst with cver := some v } }, some v))

/-- `query`'s test that the instance still wraps the object its name is bound to, on the `else` side -/
theorem stamp_eq {a b : Nat} (h : ¬(!a == b) = true) : a = b := by simpa using h

theorem query_cases (H : Ser → List Char) (s : St) (i : Nat) :
    (query H s i = (s, none) ∧
      ∀ inst b, s.insts[i]? = some inst → lookupB s.sym inst.name = some b → b.stamp ≠ inst.stamp) ∨
    ∃ inst b, s.insts[i]? = some inst ∧ lookupB s.sym inst.name = some b ∧ b.stamp = inst.stamp ∧
      QueryOutcome H s i inst b (query H s i) := by
  fun_cases query H s i with
  | case1 hi => exact Or.inl ⟨rfl, fun inst b hi' => by rw [hi] at hi'; cases hi'⟩  -- no instance `i`
  | case2 inst hi hb =>  -- its name is unbound
    refine Or.inl ⟨rfl, fun inst' b hi' hb' => ?_⟩
    cases hi.symm.trans hi'
    rw [hb] at hb'
    cases hb'
  | case3 inst hi b hb hst =>  -- its name is bound to another object
    refine Or.inl ⟨rfl, fun inst' b' hi' hb' => ?_⟩
    cases hi.symm.trans hi'
    cases hb.symm.trans hb'
    simpa using hst
  | case4 inst hi b hb hst e tok refs hd => exact Or.inr ⟨inst, b, hi, hb, stamp_eq hst, .explicit hd rfl⟩
  | case5 inst hi b hb hst hl hne =>
    simp only [Bool.and_eq_true, Option.isSome_iff_exists] at hl
    obtain ⟨hl, c, hc⟩ := hl
    exact Or.inr ⟨inst, b, hi, hb, stamp_eq hst, .frozen hne hl hc (by rw [hc])⟩
  | case6 inst hi b hb hst hl g v hc hcond hany s' v' hr hne =>
    exact Or.inr ⟨inst, b, hi, hb, stamp_eq hst, .recomputed (s.gen + 1) hne (Bool.eq_false_iff.mpr hl) (by rw [hr])⟩
  | case7 inst hi b hb hst hl g v hc hcond hany hcv hne =>
    simp only [Bool.and_eq_true, Bool.not_eq_true'] at hcond
    exact Or.inr ⟨inst, b, hi, hb, stamp_eq hst, .filled v hne hcv hcond.2 rfl⟩
  | case8 inst hi b hb hst hl g v hc hcond hany c hcv hne =>
    simp only [Bool.or_eq_true, not_or, Bool.not_eq_true] at hany
    exact Or.inr ⟨inst, b, hi, hb, stamp_eq hst, .unchanged hne hcv hany.1 hany.2 rfl⟩
  | case9 inst hi b hb hst hl g v hc hcond s' v' hr hne =>
    exact Or.inr ⟨inst, b, hi, hb, stamp_eq hst, .recomputed s.gen hne (Bool.eq_false_iff.mpr hl) (by rw [hr])⟩
  | case10 inst hi b hb hst hl hc s' v' hr hne =>
    exact Or.inr ⟨inst, b, hi, hb, stamp_eq hst, .recomputed s.gen hne (Bool.eq_false_iff.mpr hl) (by rw [hr])⟩

theorem query_cases_of (H : Ser → List Char) {s : St} {i : Nat} {inst : Inst} {b : Bound} (hi : s.insts[i]? = some inst)
    (hb : lookupB s.sym inst.name = some b) (hst : b.stamp = inst.stamp) : QueryOutcome H s i inst b (query H s i) := by
  rcases query_cases H s i with ⟨_, hdead⟩ | ⟨inst', b', hi', hb', _, hq⟩
  · exact absurd hst (hdead inst b hi hb)
  cases hi.symm.trans hi'
  cases hb.symm.trans hb'
  exact hq

theorem Inv.not_filled{H : Ser → List Char} {s : St} (hinv : Inv H s) {inst : Inst} (hmem : inst ∈ s.insts)
    (hc : inst.cver = none) (hs : inst.snaps.isEmpty = false) : False := by
  rw [(hinv.insts inst hmem).nover hc] at hs
  cases hs

/-- **coherence at one state**: a live instance asked while the cluster is unlocked (or without a version yet) answers the
    version a fresh process computes for the program as it is -/
theorem query_fresh {H : Ser → List Char} {s : St} (hinv : Inv H s) {i : Nat} {inst : Inst}
    (hi : s.insts[i]? = some inst) (hlive : live s inst) (hul : s.locked = false ∨ inst.cver = none) :
    (query H s i).2 = some (effectiveVersion H (progOf s.sym) id inst.name) := by
  have hmem : inst ∈ s.insts := List.mem_of_getElem? hi
  obtain ⟨b, hb, hst, hm⟩ := hlive
  have hlk : lookup (progOf s.sym) inst.name = some b.d := by rw [lookup_progOf, hb]; rfl
  unfold effectiveVersion
  rw [hlk]
  cases query_cases_of H hi hb hst with
  | explicit hd h => rw [h, hd]
  | frozen hne hl hc h =>
    rcases hul with hu | hu
    · rw [hu] at hl; cases hl
    · rw [hu] at hc; cases hc
  | recomputed g hne hnf h =>
    rw [h]
    split
    · rename_i e t r hd
      cases hne e t r (Option.some.inj hd)
    · rfl
  | unchanged hne hc hnc hnw h =>
    rw [h, no_change_version hinv hmem ⟨b, hb, hst, hm⟩ hc hnc hnw]
    split
    · rename_i e t r hd
      cases hne e t r (Option.some.inj hd)
    · rfl
  | filled v hne hc hs h => exact (hinv.not_filled hmem hc hs).elim

theorem inv_query {H : Ser → List Char} {s : St} (hinv : Inv H s) (i : Nat) : Inv H (query H s i).1 := by
  rcases query_cases H s i with ⟨h, _⟩ | ⟨inst, b, hi, hb, hst, hq⟩
  · rw [h]; exact hinv
  cases hq with
  | explicit hd h => rw [h]; exact hinv
  | frozen hne hl hc h => rw [h]; exact hinv
  | recomputed g hne hnf h => rw [h]; exact inv_recompute (s := { s with gen := g }) { hinv with } ⟨b, hb, hst⟩
  | unchanged hne hc hnc hnw h => rw [h]; exact hinv
  | filled v hne hc hs h => exact (hinv.not_filled (List.mem_of_getElem? hi) hc hs).elim

theorem lookupB_bind_mem {sym : Sym} {n : Name} {b : Bound} {l : List Bound} (hb : b ∈ l)
    (hs : ∀ m c, lookupB sym m = some c → c ∈ l) : ∀ m c, lookupB (bind sym n b) m = some c → c ∈ l := by
  intro m c hc
  rw [lookupB_bind] at hc
  split at hc
  · exact Option.some.inj hc ▸ hb
  · exact hs m c hc

theorem inv_push {H : Ser → List Char} {s : St} (hinv : Inv H s) {y : Inst} (hy : InstOK H s.hist y) :
    Inv H { s with insts := s.insts ++ [y] } := by
  refine { hinv with insts := ?_ }
  intro z hz
  rcases List.mem_append.mp hz with hz | hz
  · exact hinv.insts z hz
  · exact List.mem_singleton.mp hz ▸ hy

/-- `g`: the generation afterwards (a registration bumps it; `Inv` does not speak of it) -/
theorem inv_define {H : Ser → List Char} {s : St} (hinv : Inv H s) (n : Name) {d : Def} (hd : watchable d = true)
    (g : Nat) :
    Inv H { s with sym := bind s.sym n ⟨s.next, d⟩, next := s.next + 1, hist := ⟨s.next, d⟩ :: s.hist, gen := g } := by
  refine ⟨?_, lookupB_bind_mem List.mem_cons_self (fun m c h => List.mem_cons_of_mem _ (hinv.symHist m c h)), ?_, ?_, ?_⟩
  · intro b hb b' hb' hst
    rcases List.mem_cons.mp hb with rfl | hb <;> rcases List.mem_cons.mp hb' with rfl | hb'
    · rfl
    · exact absurd hst (Nat.ne_of_gt (hinv.below b' hb'))
    · exact absurd hst (Nat.ne_of_lt (hinv.below b hb))
    · exact hinv.inj b hb b' hb' hst
  · intro b hb
    rcases List.mem_cons.mp hb with rfl | hb
    · simp
    · exact Nat.lt_succ_of_lt (hinv.below b hb)
  · intro b hb
    rcases List.mem_cons.mp hb with rfl | hb
    · exact hd
    · exact hinv.track b hb
  · exact fun y hy => (hinv.insts y hy).mono (fun b hb => List.mem_cons_of_mem _ hb)

theorem inv_step {H : Ser → List Char} {s : St} (hinv : Inv H s) (e : Ev) : Inv H (step H s e).1 := by
  -- a registration: the definition, then the instance of the new function object
  have hnew (n : Name) (ex : Option (List Char)) (tok : Tok) (refs : List Name) :=
    inv_push (inv_define hinv n (d := .memento ex tok refs) rfl (s.gen + 1))
      (y := ⟨n, s.next, none, [], []⟩) ⟨fun v hv => (nomatch hv), fun _ => rfl⟩
  fun_cases step H s e with
  | case1 n ex tok refs hl => exact { hinv with }  -- `.defMemento`, refused
  | case2 n tok refs hl inst ex => exact hnew n (some ex) tok refs
  | case3 n tok refs hl =>
    refine inv_recompute (hnew n none tok refs) ⟨⟨s.next, .memento none tok refs⟩, ?_, rfl⟩
    show lookupB (bind s.sym n ⟨s.next, .memento none tok refs⟩) n = _
    rw [lookupB_bind, if_pos rfl]
  | case4 n tok refs => exact inv_define hinv n rfl s.gen  -- `.defPlain`
  | case5 n tok => exact inv_define hinv n rfl s.gen  -- `.defForeign`
  | case6 n v => exact inv_define hinv n rfl s.gen  -- `.setVar`
  | case7 i inst hi => exact inv_push hinv (hinv.insts inst (List.mem_of_getElem? hi))  -- `.clone`
  | case8 i hi => exact hinv  -- `.clone`, no such instance
  | case9 n b hb => exact inv_push hinv ⟨fun v hv => (nomatch hv), fun _ => rfl⟩  -- `.wrapper`
  | case10 n hb => exact hinv  -- `.wrapper`, `n` unbound
  | case11 n m b hb =>  -- `.alias`
    exact { hinv with symHist := lookupB_bind_mem (hinv.symHist m b hb) hinv.symHist }
  | case12 n m hb => exact hinv  -- `.alias`, `m` unbound
  | case13 i => exact inv_query hinv i
  | case14 b => exact { hinv with }  -- `.lock`

theorem run_append (H : Ser → List Char) (s : St) (es es' : List Ev) :
    run H s (es ++ es') = run H (run H s es) es' := by
  induction es generalizing s with
  | nil => rfl
  | cons e es ih => exact ih _

theorem inv_run {H : Ser → List Char} {s : St} (hinv : Inv H s) (es : List Ev) : Inv H (run H s es) := by
  induction es generalizing s with
  | nil => exact hinv
  | cons e es ih => exact ih (inv_step hinv e)

end Memento.VersionCache
