import MementoModel.Lemmas.VersionSort

/-! The version of `f` depends on how the names of its closure (`InClos`) are bound and on nothing else, not even the
enumeration order. Agreement on the targets of the rules alone is not enough: a reference without a rule may become one
with a rule. The argument is on the rule graph: successor functions that agree on what one of them reaches collect the
same rules. -/
namespace Memento.Version

/-- definitions that always get a hash rule -/
def Def.trackable : Def → Bool
  | .memento _ _ _ => true
  | .plain b _ _ => b
  | .var v => v.isSome

def Trackable (P : Prog) : Prop := ∀ n d, lookup P n = some d → d.trackable = true

theorem mkNode_ne_none_of_trackable {P : Prog} (hT : Trackable P) {p r : Name} : mkNode P p r ≠ none := by
  intro h
  rcases mkNode_eq_none h with ⟨t, rs, hl⟩ | hl
  · cases hT r _ hl
  · cases hT r _ hl

theorem rules_congr_fn {P P0 : Prog} {ord ord0 : List Name → List Name} (ho : OrdOK ord) (ho0 : OrdOK ord0) {f : Name}
    (h : ∀ p, FnTarget P0 f p → lookup P p = lookup P0 p ∧ ∀ r, RefersTo P0 p r → mkNode P p r = mkNode P0 p r)
    (z : Node) : z ∈ rules P ord f ↔ z ∈ rules P0 ord0 f := by
  rw [mem_rules_iff ho, mem_rules_iff ho0]
  refine reachable_congr fun x hx y => ?_
  rw [mem_succ ho, mem_succ ho0]
  refine and_congr_right fun hk => ?_
  obtain ⟨ht, hr⟩ := h _ ((nodeOK_of_reachable ho0 hx).target_fnTarget hk)
  rw [ht]
  exact exists_congr fun d => and_congr_right fun hd => exists_congr fun r => and_congr_right fun hr' => by
    rw [hr r ⟨d, hd, hr'⟩]

/-- the converse of C01's `version_determines_closure` -/
theorem version_congr (H : Ser → List Char) {P P0 : Prog} {ord ord0 : List Name → List Name} (ho : OrdOK ord)
    (ho0 : OrdOK ord0) {f : Name} (h : ∀ n, InClos P0 f n → lookup P n = lookup P0 n) :
    version H P ord f = version H P0 ord0 f := by
  unfold version versionInput
  rw [sortedRules_congr (rules_congr_fn ho ho0 fun p hp =>
    ⟨h p (Or.inl hp), fun r href => mkNode_congr (h r (Or.inr ⟨p, hp, href⟩)) p⟩)]
  rw [Store.filterMap_congr (f := ruleHash H P) (g := ruleHash H P0)]
  intro x hx
  unfold ruleHash
  rw [h _ (target_inClos ho0 (mem_sortedRules.mp hx))]

section cong
variable {P P0 : Prog} {f : Name}

def AgreeOn (P P0 : Prog) (f : Name) : Prop := ∀ x ∈ rules P0 id f, lookup P x.target = lookup P0 x.target

/-- **closure determines version** when every definition gets a rule: every name of the closure is the target of a rule -/
theorem version_congr_closure (H : Ser → List Char) (hT0 : Trackable P0) (h : AgreeOn P P0 f) :
    version H P id f = version H P0 id f := by
  refine version_congr H ordOK_id ordOK_id fun n hn => ?_
  suffices ∃ x ∈ rules P0 id f, x.target = n by
    obtain ⟨x, hx, rfl⟩ := this
    exact h x hx
  rcases inClos_cases hn with rfl | ⟨p, hp, href⟩
  · exact ⟨rootNode n, (mem_rules_nodeOK ordOK_id).mpr (Or.inl rfl), rfl⟩
  · cases hm : mkNode P0 p n with
    | none => exact absurd hm (mkNode_ne_none_of_trackable hT0)
    | some y =>
      have ht := (mkNode_cases hm).1
      exact ⟨y, (mem_rules_nodeOK ordOK_id).mpr (Or.inr ⟨p, hp, ht ▸ href, ht ▸ hm⟩), ht⟩

end cong
end Memento.Version
