import MementoModel.Lemmas.VersionInj
import MementoModel.Props.C03

/-!
# C01 — memoized results are never stale with respect to code and data changes

The storage key of a call is (function name, **version**, argument hash). A stored result can be
served to a later edition of the program only under an equal key, so "never stale" is:

    equal version  ⇒  equal meaning              (for any two editions, however they are related)

together with C02 (the runner returns what is stored under the key or computes and stores it) and C14
(calls that leave the hashed closure are refused — the "or raises the undeclared-dependency error" branch).

Model: `Model/Version.lean`; meaning = `eval` (`Lemmas/VersionInj.lean`): the value of a definition
as a free term over its code token, its argument and the values of everything it names — so every
edit to any feature of any definition of the closure changes the meaning (the generated programs of
`c01.py` are built the same way: every feature flows into the returned value).

Program class (`Tracked`): the root is automatically versioned and everything named in its closure
is a memento function (automatically **or explicitly** versioned), a plain function of the package, a
variable of a supported type, or a name the modules do not define (builtins such as `len`: every real program has
them). `UndefVarStable P P'`: a name that one edition leaves undefined is not a *variable* in the other — remark R2 is the
witness that this cannot be dropped; it may become a function, function digests cover their names. For explicitly
versioned functions the user's side of the contract is the hypothesis `Disciplined P P'`: a function that carries the same
explicit version string in both editions has the same definition in both (nothing is assumed about what lies beneath it: the
closure walks through explicitly versioned functions, so everything beneath is covered by the digests).

Hash idealisation: SHA-256 truncated to 16 hex digits keeps the digested objects apart and has 16-character values:
hypotheses on `H`, not axioms. `version_determines_closure`, `equal_version_equal_meaning` and `no_stale` ask them of all of
`Ser` (`Function.Injective H`, `∀ s, (H s).length = 16`), and no `H` has both (`Ser` is infinite, the 16-character strings
are finitely many): in that form the three say nothing of any `H`. What C01 claims is said by the `_on` forms, of which the
three are instances: they ask the same only of the objects digested for the programs at hand (finitely many for two programs
or a finite history, which a function with 16-character values can keep apart), and of any one positive width.

The two hypotheses that the proof *forces* (one width for the rule digests, `UndefVarStable`) mark real collision points of
the code:
* rule hashes are concatenated unframed, so they must have one width: explicit version strings of
  dependencies used to enter verbatim ("1","23" ≡ "12","3": finding K1, repaired by fix F17);
  `explicit_versions_framed` shows for the rendering `exH` that with the strings digested the two version inputs differ;
* rules for undefined symbols contribute nothing, and a variable's digest does not include its name:
  `undefined_symbol_collide` (remark R2: needs deleting one variable and defining another) is a collision for every `H`.

A third collision point concerns explicitly versioned dependencies (finding F23; the model follows the code as repaired):
rule digests are concatenated in key order without their keys, so if the digest of an explicit version does not cover
the *name* of its function, `g "1" → h "2" → g` and `g "2" → a "1" → a` (with `a` sorting before the caller) give the
caller the same version although every edited function has its string changed
(`explicit_digest_without_name_collides`, for every `H`); with the name covered the version inputs of the two editions
differ (`explicit_digest_names_function`, for `exH`).
-/
namespace Memento.Version

/-- **equal versions ⇒ equal closures** (C01, general form): `H` need only keep an object digested for `P` apart from one
    digested for `P'`, and give the rule digests of the two one positive width `w` -/
theorem version_determines_closure_on {H : Ser → List Char} {P P' : Prog} {f : Name} {ord ord' : List Name → List Name}
    (ho : OrdOK ord) (ho' : OrdOK ord') {w : Nat} (hpos : 0 < w)
    (hinj : ∀ a ∈ digested H P f, ∀ b ∈ digested H P' f, H a = H b → a = b)
    (hw : ∀ s ∈ serList P f ++ serList P' f, (H s).length = w)
    (hT : Tracked P f) (hT' : Tracked P' f) (hd : Disciplined P P') (hu : UndefVarStable P P')
    (hv : version H P ord f = version H P' ord' f) :
    (∀ n, InClos P f n → lookup P' n = lookup P n) ∧ (∀ n, InClos P' f n → lookup P n = lookup P' n) := by
  rw [version_congr H ho ordOK_id (P0 := P) fun _ _ => rfl, version_congr H ho' ordOK_id (P0 := P') fun _ _ => rfl] at hv
  have ha : Agree P P' f := ⟨hT, hT', hd, hu, serList_eq_of_version_eq hpos hinj hw hv⟩
  exact ⟨fun n hn => ha.lookup_clos hn, fun n hn => ha.symm.lookup_clos hn⟩

/-- **equal version ⇒ equal meaning** (C01, general form) -/
theorem equal_version_equal_meaning_on {H : Ser → List Char} {P P' : Prog} {f : Name} {ord ord' : List Name → List Name}
    (ho : OrdOK ord) (ho' : OrdOK ord') {w : Nat} (hpos : 0 < w)
    (hinj : ∀ a ∈ digested H P f, ∀ b ∈ digested H P' f, H a = H b → a = b)
    (hw : ∀ s ∈ serList P f ++ serList P' f, (H s).length = w)
    (hT : Tracked P f) (hT' : Tracked P' f) (hd : Disciplined P P') (hu : UndefVarStable P P')
    (hv : version H P ord f = version H P' ord' f) (k a : Nat) : eval P k f a = eval P' k f a :=
  eval_congr (version_determines_closure_on ho ho' hpos hinj hw hT hT' hd hu hv).1
    (fun _ _ _ hn hd hr => inClos_refs hT hn hd hr) a k f (Or.inl (Or.inl rfl))

/-- **version determines closure.** Two tracked programs in which `f` has the same version bind every
    name of `f`'s closure (its functions and everything they name) to the same definition. Instance of
    `version_determines_closure_on`. -/
theorem version_determines_closure (H : Ser → List Char) (hinj : Function.Injective H)
    (hw : ∀ s, (H s).length = 16) (P P' : Prog) (f : Name) (hT : Tracked P f) (hT' : Tracked P' f)
    (hd : Disciplined P P') (hu : UndefVarStable P P') (hv : version H P id f = version H P' id f) :
    (∀ n, InClos P f n → lookup P' n = lookup P n) ∧ (∀ n, InClos P' f n → lookup P n = lookup P' n) :=
  version_determines_closure_on ordOK_id ordOK_id (by decide) (fun _ _ _ _ h => hinj h) (fun s _ => hw s) hT hT' hd hu hv

/-- **closure determines meaning** and hence **equal version ⇒ equal meaning**, at every evaluation depth and for
    every argument; instance of `equal_version_equal_meaning_on`. -/
theorem equal_version_equal_meaning (H : Ser → List Char) (hinj : Function.Injective H)
    (hw : ∀ s, (H s).length = 16) (P P' : Prog) (f : Name) (hT : Tracked P f) (hT' : Tracked P' f)
    (hd : Disciplined P P') (hu : UndefVarStable P P') (ord ord' : List Name → List Name) (ho : OrdOK ord) (ho' : OrdOK ord')
    (hv : version H P ord f = version H P' ord' f) (k a : Nat) :
    eval P k f a = eval P' k f a :=
  equal_version_equal_meaning_on ho ho' (by decide) (fun _ _ _ _ h => hinj h) (fun s _ => hw s) hT hT' hd hu hv k a

/-- a persistent store of results, keyed by (function, version, argument) -/
abbrev VStore := List ((Name × List Char × Nat) × Res)

def VStore.get (s : VStore) (key : Name × List Char × Nat) : Option Res :=
  (s.find? (fun e => e.1 == key)).map (·.2)

theorem VStore.mem_of_get {s : VStore} {key : Name × List Char × Nat} {r : Res} (h : s.get key = some r) :
    (key, r) ∈ s := by
  unfold VStore.get at h
  obtain ⟨e, he, rfl⟩ := Option.map_eq_some_iff.mp h
  have hk : e.1 = key := by simpa using List.find?_some he
  exact hk ▸ List.mem_of_find?_eq_some he

/-- a history of editions in which explicit versions are used with discipline and no name turns from undefined into a
    variable (or back): any two editions are `Disciplined` and `UndefVarStable` -/
def DisciplinedHistory (E : Prog → Prop) : Prop := ∀ P P', E P → E P' → Disciplined P P' ∧ UndefVarStable P P'

/-- every entry was computed by *some* tracked edition of the history `E` under the version that edition gave
    the function (the store may have been filled by any number of earlier editions, in any order) -/
def FilledByEditions (H : Ser → List Char) (k : Nat) (E : Prog → Prop) (s : VStore) : Prop :=
  ∀ f v a r, ((f, v, a), r) ∈ s → ∃ P ord, E P ∧ OrdOK ord ∧ Tracked P f ∧ version H P ord f = v ∧ r = eval P k f a

/-- what a memoized call of `f a` returns under the current edition `P` -/
def memoCall (H : Ser → List Char) (k : Nat) (s : VStore) (P : Prog) (ord : List Name → List Name) (f a : Name) : Res :=
  match s.get (f, version H P ord f, a) with
  | some r => r
  | none => eval P k f a

/-- **no stale result** (C01, general form): the hypotheses on `H` concern the objects digested for `f` by the editions of
    the history only -/
theorem no_stale_on {H : Ser → List Char} {k : Nat} {E : Prog → Prop} (hE : DisciplinedHistory E) {f : Name} {w : Nat} (hpos : 0 < w)
    (hinj : ∀ P P', E P → E P' → ∀ a ∈ digested H P f, ∀ b ∈ digested H P' f, H a = H b → a = b)
    (hw : ∀ P, E P → ∀ s ∈ serList P f, (H s).length = w)
    {s : VStore} (hs : FilledByEditions H k E s)
    {P : Prog} (hP : E P) {ord : List Name → List Name} (ho : OrdOK ord) (a : Nat) (hT : Tracked P f) :
    memoCall H k s P ord f a = eval P k f a := by
  unfold memoCall
  cases hg : s.get (f, version H P ord f, a) with
  | none => rfl
  | some r =>
    obtain ⟨P0, ord0, hP0, ho0, hT0, hv0, hr0⟩ := hs _ _ _ _ (VStore.mem_of_get hg)
    rw [hr0]
    exact equal_version_equal_meaning_on ho0 ho hpos (hinj P0 P hP0 hP)
      (fun s hs => (List.mem_append.mp hs).elim (hw P0 hP0 s) (hw P hP s)) hT0 hT (hE P0 P hP0 hP).1 (hE P0 P hP0 hP).2 hv0 k a

/-- **no stale result**: whatever editions filled the store, a memoized call under the current edition returns
    exactly what the un-memoized execution of the current edition returns; instance of `no_stale_on` -/
theorem no_stale (H : Ser → List Char) (hinj : Function.Injective H) (hw : ∀ s, (H s).length = 16)
    (k : Nat) (E : Prog → Prop) (hE : DisciplinedHistory E) (s : VStore) (hs : FilledByEditions H k E s)
    (P : Prog) (hP : E P) (ord : List Name → List Name) (ho : OrdOK ord) (f a : Nat) (hT : Tracked P f) :
    memoCall H k s P ord f a = eval P k f a :=
  no_stale_on hE (by decide) (fun _ _ _ _ _ _ _ _ h => hinj h) (fun _ _ s _ => hw s) hs hP ho a hT

/-- the storing side: adding the result the current edition computes keeps the store `FilledByEditions` -/
theorem store_preserves (H : Ser → List Char) (k : Nat) (E : Prog → Prop) (s : VStore) (hs : FilledByEditions H k E s)
    (P : Prog) (hP : E P) (ord : List Name → List Name) (ho : OrdOK ord) (f a : Nat) (hT : Tracked P f) :
    FilledByEditions H k E (((f, version H P ord f, a), eval P k f a) :: s) := by
  intro f' v' a' r' hmem
  rcases List.mem_cons.mp hmem with h | h
  · simp only [Prod.mk.injEq] at h
    obtain ⟨⟨rfl, rfl, rfl⟩, rfl⟩ := h
    exact ⟨P, ord, hP, ho, hT, rfl, rfl⟩
  · exact hs _ _ _ _ h

/-- K1 (repaired by fix F17): `f` depends on two explicitly versioned functions. Editing both (tokens 20→21, 30→31)
    and changing their version strings from "1","23" to "12","3" left `f`'s version unchanged when the strings entered
    the digest verbatim. With fixed-width digests of the strings the version input differs. -/
def exK1a : Prog := [(0, .memento none 10 [1, 2]), (1, .memento (some ['1']) 20 []), (2, .memento (some ['2', '3']) 30 [])]
def exK1b : Prog := [(0, .memento none 10 [1, 2]), (1, .memento (some ['1', '2']) 21 []), (2, .memento (some ['3']) 31 [])]

theorem explicit_versions_framed :
    versionInput exH exK1a id 0 ≠ versionInput exH exK1b id 0 ∧ eval exK1a 2 0 0 ≠ eval exK1b 2 0 0 := by
  constructor
  · simp only [versionInput, sortedRules, rules, fuel_eq]
    decide +kernel
  · intro h
    cases h

/-- R2: `f` names `V1` and `V2`; first only `V1 = 5` is defined, then only `V2 = 5`: same version, different meaning. -/
def exR2a : Prog := [(0, .memento none 10 [1, 2]), (1, .var (some 5))]
def exR2b : Prog := [(0, .memento none 10 [1, 2]), (2, .var (some 5))]

theorem undefined_symbol_collide (H : Ser → List Char) :
    version H exR2a id 0 = version H exR2b id 0 ∧ eval exR2a 2 0 0 ≠ eval exR2b 2 0 0 := by
  constructor
  · simp only [version, versionInput, sortedRules, rules, fuel_eq]
    rfl
  · intro h
    cases h

/-- F23 (repaired): names `a = 0 < f = 1 < g = 2 < h = 3`. First edition: `f → g "1" → h "2" → g`; second edition:
    `g` rewritten and bumped, `h` dropped, a new function `a`: `f → g "2" → a "1" → a`. No function keeps a version
    string (so the editions are `Disciplined`), and `f`'s meaning differs. -/
def exF23a : Prog := [(1, .memento none 10 [2]), (2, .memento (some ['1']) 20 [3]), (3, .memento (some ['2']) 30 [2])]
def exF23b : Prog := [(0, .memento (some ['1']) 40 [0]), (1, .memento none 10 [2]), (2, .memento (some ['2']) 21 [0])]

/-- the rule digests as they were before the fix: an explicit version was digested without the function's name -/
def ruleHashUnnamed (H : Ser → List Char) (P : Prog) (x : Node) : Option (List Char) :=
  match x.kind, lookup P x.target with
  | .mfn, some (.memento (some e) _ _) => some (H (.explicit 0 e))
  | _, _ => ruleHash H P x

theorem explicit_digest_without_name_collides (H : Ser → List Char) :
    ((sortedRules exF23a id 1).filterMap (ruleHashUnnamed H exF23a)).flatten =
      ((sortedRules exF23b id 1).filterMap (ruleHashUnnamed H exF23b)).flatten ∧
    Disciplined exF23a exF23b ∧ eval exF23a 3 1 0 ≠ eval exF23b 3 1 0 := by
  refine ⟨?_, ?_, ?_⟩
  · have ha : sortedRules exF23a id 1 = [⟨.mfn, none, 1⟩, ⟨.mfn, some 1, 2⟩, ⟨.mfn, some 2, 3⟩, ⟨.mfn, some 3, 2⟩] := by
      simp only [sortedRules, rules, fuel_eq]
      decide +kernel
    have hb : sortedRules exF23b id 1 = [⟨.mfn, none, 1⟩, ⟨.mfn, some 0, 0⟩, ⟨.mfn, some 1, 2⟩, ⟨.mfn, some 2, 0⟩] := by
      simp only [sortedRules, rules, fuel_eq]
      decide +kernel
    rw [ha, hb]
    -- on both sides: the digest of `f`'s code, then the nameless digests of the strings "1", "2", "1"
    rfl
  · exact disciplined_of_tables (by decide +kernel)
  · intro h
    cases h

theorem explicit_digest_names_function : versionInput exH exF23a id 1 ≠ versionInput exH exF23b id 1 := by
  simp only [versionInput, sortedRules, rules, fuel_eq]
  decide +kernel

theorem reachN_names {P : Prog} {f g : Name} (h : ReachN P f g) : g ∈ names P := by
  obtain ⟨p, _, d, hd, hr⟩ := reachN_last h
  exact refs_mem_names hd hr

def exT : Prog :=
  [(0, .memento none 10 [1, 3, 5]), (1, .plain true 11 [2, 5]), (2, .memento none 12 [0]), (3, .plain true 13 []),
   (5, .var (some 7))]

/-- a cyclic program with a helper and a variable is tracked -/
example : Tracked exT 0 := tracked_of_trackable ⟨_, _, rfl⟩ (trackable_of_all rfl)

/-- `exT` with the value of the variable changed: an edit beneath a helper -/
def exT' : Prog :=
  [(0, .memento none 10 [1, 3, 5]), (1, .plain true 11 [2, 5]), (2, .memento none 12 [0]), (3, .plain true 13 []),
   (5, .var (some 8))]

example : versionInput exH exT id 0 ≠ versionInput exH exT' id 0 := by
  simp only [versionInput, sortedRules, rules, fuel_eq]
  decide +kernel

/-- two editions for which the hypotheses about explicit versions hold: `f → g "1" → V`, then `g` edited and bumped to "2" -/
def exTE : Prog := [(0, .memento none 10 [1]), (1, .memento (some ['1']) 20 [5]), (5, .var (some 7))]
def exTE' : Prog := [(0, .memento none 10 [1]), (1, .memento (some ['2']) 21 [5]), (5, .var (some 7))]

theorem exTE_tracked (g : Tok) (e : List Char) :
    Tracked [(0, .memento none 10 [1]), (1, .memento (some e) g [5]), (5, .var (some 7))] 0 :=
  tracked_of_trackable ⟨_, _, rfl⟩ (trackable_of_all rfl)

example : Tracked exTE 0 ∧ Tracked exTE' 0 := ⟨exTE_tracked 20 ['1'], exTE_tracked 21 ['2']⟩

example : Disciplined exTE exTE' := disciplined_of_tables (by decide +kernel)

example : versionInput exH exTE id 0 ≠ versionInput exH exTE' id 0 := by
  simp only [versionInput, sortedRules, rules, fuel_eq]
  decide +kernel

/-- a program that uses a builtin (name 9 is not defined by the modules) is tracked -/
def exTB : Prog := [(0, .memento none 10 [9, 5]), (5, .var (some 7))]

example : Tracked exTB 0 := tracked_of_trackable ⟨_, _, rfl⟩ (trackable_of_all rfl)

example : ¬ UndefVarStable exR2a exR2b := by
  intro h
  exact (h 2).1 rfl 5 rfl

end Memento.Version
