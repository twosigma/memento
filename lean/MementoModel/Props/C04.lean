import MementoModel.Model.ArgHash
import MementoModel.Lemmas.JsonLemmas
import MementoModel.Lemmas.ArgHashLemmas

/-!
# C04 — argument identity: the memo key is canonical in the bound argument values

The key of a call is `H (render (keyTokens effKw ctx))` with `H` = SHA-256. Everything below is
about `keyTokens` (token level); with `H ∘ render` injective (SHA-256 idealised; `render` of
primitive tokens = `json.dumps`, trusted and validated by the correspondence check) equal keys ⇔
equal token lists.

Two directions. *Invariance*: the key tokens do not depend on dictionary insertion order (`ser_canon`) or on how
a binding is presented (`presentation_invariance`, `presentation_same_key`). *Injectivity*: equal token lists have
equal canonical forms (`ser_injective`, `key_iff`), and normalized scalars with equal keys are equal
(`key_injective_scalar`). Both rest on `ser v = serC (canonJ v)` (`ser_eq_serC_canon`, unconditional), where `serC`
(`Lemmas/JsonLemmas.lean`) is the serialisation *without* sorting, which is prefix-free, hence injective.
-/
namespace Memento.ArgHash
open Memento.Json

def jobjOfList : List (String × JVal) → JObj
  | [] => .nil
  | (k, v) :: r => .cons k v (jobjOfList r)

def jkeys : JObj → List String
  | .nil => []
  | .cons k _ o => k :: jkeys o

mutual
  /-- sort object members by key, recursively -/
  def canonJ : JVal → JVal
    | .arr l => .arr (canonJL l)
    | .obj o => .obj (jobjOfList (sortKV (canonJO o)))
    | v => v
  def canonJL : JList → JList
    | .nil => .nil
    | .cons v l => .cons (canonJ v) (canonJL l)
  def canonJO : JObj → List (String × JVal)
    | .nil => []
    | .cons k v o => (k, canonJ v) :: canonJO o
end

mutual
  /-- Python dicts have distinct keys, at every level -/
  def DistinctJ : JVal → Prop
    | .arr l => DistinctJL l
    | .obj o => (jkeys o).Nodup ∧ DistinctJO o
    | _ => True
  def DistinctJL : JList → Prop
    | .nil => True
    | .cons v l => DistinctJ v ∧ DistinctJL l
  def DistinctJO : JObj → Prop
    | .nil => True
    | .cons _ v o => DistinctJ v ∧ DistinctJO o
end

theorem serCO_jobjOfList : ∀ l : List (String × JVal),
    serCO (jobjOfList l) = l.map (fun p => (p.1, serC p.2))
  | [] => by simp [jobjOfList, serCO]
  | (k, v) :: r => by simp [jobjOfList, serCO, serCO_jobjOfList r]

theorem canonJO_jobjOfList : ∀ l : List (String × JVal),
    canonJO (jobjOfList l) = l.map (fun p => (p.1, canonJ p.2))
  | [] => by simp [jobjOfList, canonJO]
  | (k, v) :: r => by simp [jobjOfList, canonJO, canonJO_jobjOfList r]

theorem jobjOfList_injective : ∀ {l l' : List (String × JVal)}, jobjOfList l = jobjOfList l' → l = l'
  | [], [], _ => rfl
  | (k, v) :: r, (k', v') :: r', h => by
    injection h with hk hv hr
    rw [hk, hv, jobjOfList_injective hr]

theorem canonJO_keys : ∀ o : JObj, (canonJO o).map (·.1) = jkeys o
  | .nil => by simp [canonJO, jkeys]
  | .cons k v o => by simp [canonJO, jkeys, canonJO_keys o]

mutual
  theorem ser_eq_serC_canon : ∀ v : JVal, ser v = serC (canonJ v)
    | .null | .bool _ | .num _ | .str _ => by simp [canonJ, ser, serC]
    | .arr l => by simp [canonJ, ser, serC, serL_eq_serCL_canon l]
    | .obj o => by
      simp only [canonJ, ser, serC, serCO_jobjOfList, serO_eq_canon o]
      rw [sortKV_map]
  theorem serL_eq_serCL_canon : ∀ l : JList, serL l = serCL (canonJL l)
    | .nil => by simp [canonJL, serL, serCL]
    | .cons v .nil => by simp [canonJL, serL, serCL, ser_eq_serC_canon v]
    | .cons v (.cons v' l') => by
      have := serL_eq_serCL_canon (.cons v' l')
      simp only [canonJL] at this
      simp [canonJL, serL, serCL, ser_eq_serC_canon v, this]
  theorem serO_eq_canon : ∀ o : JObj, serO o = (canonJO o).map (fun p => (p.1, serC p.2))
    | .nil => by simp [canonJO, serO]
    | .cons k v o => by simp [canonJO, serO, ser_eq_serC_canon v, serO_eq_canon o]
end

mutual
  theorem canonJ_idem : ∀ v : JVal, DistinctJ v → canonJ (canonJ v) = canonJ v
    | .null | .bool _ | .num _ | .str _ => fun _ => by simp [canonJ]
    | .arr l => fun h => by
      simp only [DistinctJ] at h
      simp [canonJ, canonJL_idem l h]
    | .obj o => fun h => by
      simp only [DistinctJ] at h
      simp only [canonJ, canonJO_jobjOfList]
      rw [← sortKV_map, canonJO_idem o h.2, sortKV_idem]
      rw [canonJO_keys]; exact h.1
  theorem canonJL_idem : ∀ l : JList, DistinctJL l → canonJL (canonJL l) = canonJL l
    | .nil => fun _ => by simp [canonJL]
    | .cons v l => fun h => by
      simp only [DistinctJL] at h
      simp [canonJL, canonJ_idem v h.1, canonJL_idem l h.2]
  theorem canonJO_idem : ∀ o : JObj, DistinctJO o →
      (canonJO o).map (fun p => (p.1, canonJ p.2)) = canonJO o
    | .nil => fun _ => by simp [canonJO]
    | .cons k v o => fun h => by
      simp only [DistinctJO] at h
      simp [canonJO, canonJ_idem v h.1, canonJO_idem o h.2]
end

/-- invariance under key order / dictionary insertion order: the normalized JSON of a value is
    that of its canonical form.  (`DistinctJ` is needed: on equal keys `sortKV` puts the member
    that was stored *later* first, so with duplicate keys sorting twice is not sorting once.) -/
theorem ser_canon (v : JVal) (h : DistinctJ v) : ser (canonJ v) = ser v := by
  rw [ser_eq_serC_canon, ser_eq_serC_canon v, canonJ_idem v h]

/-- the witness: `sortKV [("a", 1), ("a", 2)] = [("a", 2), ("a", 1)]` -/
example : ser (canonJ (.obj (.cons "a" (.num "1") (.cons "a" (.num "2") .nil)))) ≠
    ser (.obj (.cons "a" (.num "1") (.cons "a" (.num "2") .nil))) := by decide +kernel

theorem ser_injective' {v w : JVal} (h : ser v = ser w) : canonJ v = canonJ w := by
  rw [ser_eq_serC_canon, ser_eq_serC_canon w] at h
  exact serC_injective h

/-- the normalized JSON is injective on JSON values up to member order: `ser_injective'` with the distinctness
    hypotheses of the property's wording (`_hv`, `_hw` are not used) -/
theorem ser_injective (v w : JVal) (_hv : DistinctJ v) (_hw : DistinctJ w) (h : ser v = ser w) :
    canonJ v = canonJ w :=
  ser_injective' h

theorem ser_eq_of_canon_eq {v w : JVal} (h : canonJ v = canonJ w) : ser v = ser w := by
  rw [ser_eq_serC_canon, ser_eq_serC_canon w, h]

theorem normalize_of_decode (v : JVal) (n : Arg) (h : decode v = some n) : normalize n = some n :=
  decode_fix v n h

theorem normalize_idem (a n : Arg) (h : normalize a = some n) : normalize n = some n :=
  decode_fix (encode a) n h

/-- on normalized values `encode` is injective (decode is a left inverse) -/
theorem encode_injective_on_normalized (a b : Arg) (ha : normalize a = some a) (hb : normalize b = some b)
    (h : encode a = encode b) : a = b := by
  unfold normalize at ha hb
  rw [h, hb] at ha
  exact (Option.some.inj ha).symm

/-- **key ⇔ encoding**: two values have the same normalized JSON iff their encodings are equal as JSON values up to
    dictionary member order, i.e. have the same `canonJ` (`_ha`, `_hb` are not used). Equal encodings of normalized
    values are equal values: `encode_injective_on_normalized`; for scalars both steps are `key_injective_scalar`. -/
theorem key_iff (a b : Arg) (_ha : DistinctJ (encode a)) (_hb : DistinctJ (encode b)) :
    ser (encode a) = ser (encode b) ↔ canonJ (encode a) = canonJ (encode b) :=
  ⟨ser_injective', ser_eq_of_canon_eq⟩

theorem int_tok_is_int (z : Int) : isIntTok (intTok z) = true := isIntTok_intTok z

/-- an integer token reads back as the integer (`json.loads (json.dumps z) = z`) -/
theorem int_tok_roundtrip (z : Int) : decode (.num (intTok z)) = some (.int z) :=
  fix_int z

def scalar : Arg → Bool
  | .list _ | .dict _ | .fnref .. => false
  | _ => true

theorem canonJ_date (ty iso : String) :
    canonJ (.obj (.cons "_mementoType" (.str ty) (.cons "iso8601" (.str iso) .nil))) =
      .obj (.cons "_mementoType" (.str ty) (.cons "iso8601" (.str iso) .nil)) := by
  simp [canonJ, canonJO, sortKV, insertKV, jobjOfList]

theorem decode_canonJ_encode : ∀ {a : Arg}, scalar a = true → decode (canonJ (encode a)) = decode (encode a)
  | .none, _ | .bool _, _ | .int _, _ | .float _, _ | .str _, _ => rfl
  | .date iso, _ => by rw [encode, canonJ_date]
  | .datetime iso, _ => by rw [encode, canonJ_date]

/-- **the key separates normalized scalars**, of different types or of one type and different values:
    equal token lists have equal canonical forms (`ser_injective'`), and `decode` reads the value back
    from the canonical form -/
theorem key_injective_scalar {a b : Arg} (ha : Fix a) (hb : Fix b) (sa : scalar a = true)
    (sb : scalar b = true) (h : ser (encode a) = ser (encode b)) : a = b := by
  have := congrArg decode (ser_injective' h)
  rw [decode_canonJ_encode sa, decode_canonJ_encode sb, ha, hb] at this
  exact Option.some.inj this

/-- this and the five theorems below are instances of `key_injective_scalar`, which separates all normalized scalars -/
theorem type_separation_bool_int (b : Bool) (z : Int) : ser (encode (.bool b)) ≠ ser (encode (.int z)) :=
  fun h => Arg.noConfusion (key_injective_scalar (fix_bool b) (fix_int z) rfl rfl h)
theorem type_separation_int_float (z : Int) (t : String) (ht : isIntTok t = false) :
    ser (encode (.int z)) ≠ ser (encode (.float t)) :=
  fun h => Arg.noConfusion (key_injective_scalar (fix_int z) (fix_float ht) rfl rfl h)
theorem type_separation_int_str (z : Int) (s : String) : ser (encode (.int z)) ≠ ser (encode (.str s)) :=
  fun h => Arg.noConfusion (key_injective_scalar (fix_int z) (fix_str s) rfl rfl h)
theorem type_separation_date_datetime (d t : String) : ser (encode (.date d)) ≠ ser (encode (.datetime t)) :=
  fun h => Arg.noConfusion (key_injective_scalar (fix_date d) (fix_datetime t) rfl rfl h)
theorem type_separation_date_str (d s : String) : ser (encode (.date d)) ≠ ser (encode (.str s)) :=
  fun h => Arg.noConfusion (key_injective_scalar (fix_date d) (fix_str s) rfl rfl h)
/-- datetimes with different `isoformat()` texts, in particular a naive and an aware one, have different keys -/
theorem type_separation_naive_aware (t t' : String) (h : t ≠ t') :
    ser (encode (.datetime t)) ≠ ser (encode (.datetime t')) :=
  fun he => h (Arg.datetime.inj (key_injective_scalar (fix_datetime t) (fix_datetime t') rfl rfl he))

def binding (params : List String) (vs : List Arg) : KwMap := params.zip vs

def SameMap (m m' : KwMap) : Prop := ∀ k, kwGet m k = kwGet m' k

/-- the bindings of the parameters from position `i` on that `pk` does not name, in parameter order -/
def restBindings (params : List String) (vs : List Arg) (i : Nat) (pk : KwMap) : KwMap :=
  ((binding params vs).drop i).filter (fun b => !kwHas pk b.1)

/-- a presentation of the binding `params ↦ vs`:
    * the first `i` parameters as partial positional arguments;
    * *any* sub-collection `pk` of the bindings of the other parameters as partial keyword arguments,
      in any order (in particular a partial keyword argument may name an *earlier* parameter than a
      positional one: `def area(w, h)`, `area.partial(w=3)(4)`);
    * of the parameters that are then still unbound (`restBindings`, in parameter order) the first
      `r` positionally, the others as keyword arguments `kw`, in any order. -/
structure Presentation (params : List String) (vs : List Arg) where
  i : Nat
  pk : KwMap
  r : Nat
  kw : KwMap
  hi : i ≤ params.length
  hpkN : (pk.map (·.1)).Nodup
  hpk : ∀ b ∈ pk, b ∈ (binding params vs).drop i
  hr : r ≤ (restBindings params vs i pk).length
  hkw : kw.Perm ((restBindings params vs i pk).drop r)

def Presentation.pargs {params : List String} {vs : List Arg} (p : Presentation params vs) : List Arg :=
  vs.take p.i

def Presentation.args {params : List String} {vs : List Arg} (p : Presentation params vs) : List Arg :=
  ((restBindings params vs p.i p.pk).take p.r).map (·.2)

theorem binding_keys {params : List String} {vs : List Arg} (hl : vs.length = params.length) :
    (binding params vs).map (·.1) = params :=
  List.map_fst_zip (by omega)

theorem binding_vals {params : List String} {vs : List Arg} (hl : vs.length = params.length) :
    (binding params vs).map (·.2) = vs :=
  List.map_snd_zip (by omega)

theorem binding_length {params : List String} {vs : List Arg} (hl : vs.length = params.length) :
    (binding params vs).length = params.length := by
  unfold binding; rw [List.length_zip, hl, Nat.min_self]

theorem binding_nodup {params : List String} (hp : params.Nodup) {vs : List Arg} (hl : vs.length = params.length) :
    ((binding params vs).map (·.1)).Nodup := by
  rw [binding_keys hl]; exact hp

/-- the names in `restBindings` are what `effKw` calls `remaining` once the first `i` parameters are bound -/
theorem restBindings_names (params : List String) (vs : List Arg) (hl : vs.length = params.length)
    (i : Nat) (pk : KwMap) :
    (restBindings params vs i pk).map (·.1) = (params.drop i).filter (fun n => !kwHas pk n) := by
  conv => rhs; rw [← binding_keys hl, ← List.map_drop, List.filter_map]
  rfl

theorem presentation_effKw {params : List String} {vs : List Arg} (hp : params.Nodup)
    (hl : vs.length = params.length) (p : Presentation params vs) :
    ∃ m, effKw params p.pargs p.pk p.args p.kw = .ok m ∧ m.Perm (binding params vs) ∧
      (m.map (·.1)).Perm params := by
  have hB := List.take_append_drop p.i (binding params vs)
  obtain ⟨m, h, hperm⟩ := effKw_presentation (T := (binding params vs).take p.i) p.r rfl
    (by rw [hB]; exact binding_nodup hp hl) p.hpkN p.hpk p.hkw
  rw [hB, binding_keys hl, List.map_take, binding_vals hl] at h
  rw [hB] at hperm
  have hk := hperm.map (·.1)
  rw [binding_keys hl] at hk
  exact ⟨m, h, hperm, hk⟩

/-- invariance under positional vs keyword passing, partial application and keyword order: every presentation of a
    binding yields the same effective keyword arguments (as a map) -/
theorem presentation_invariance (params : List String) (vs : List Arg) (hp : params.Nodup)
    (hl : vs.length = params.length) (p : Presentation params vs) :
    ∃ m, effKw params p.pargs p.pk p.args p.kw = .ok m ∧
      SameMap m (binding params vs) ∧ (m.map (·.1)).Perm params := by
  obtain ⟨m, hm, hperm, hk⟩ := presentation_effKw hp hl p
  exact ⟨m, hm, fun k => kwGet_eq_of_perm hperm (hk.nodup_iff.mpr hp) k, hk⟩

/-- any two presentations of a binding have the same key tokens (`_hd`, `_hc` are not used) -/
theorem presentation_same_key (params : List String) (vs : List Arg) (hp : params.Nodup)
    (hl : vs.length = params.length) (p q : Presentation params vs) (ctx : KwMap)
    (_hd : ∀ v ∈ vs, DistinctJ (encode v)) (_hc : DistinctJ (encode (.dict (ArgObj.ofList ctx))))
    (hr : "_memento_context_args" ∉ params) :
    ∀ m m', effKw params p.pargs p.pk p.args p.kw = .ok m →
      effKw params q.pargs q.pk q.args q.kw = .ok m' →
      keyTokens m ctx = keyTokens m' ctx := by
  intro m m' hm hm'
  obtain ⟨m0, h0, hperm, hk⟩ := presentation_effKw hp hl p
  obtain ⟨m0', h0', hperm', _⟩ := presentation_effKw hp hl q
  rw [hm] at h0; rw [hm'] at h0'
  cases h0; cases h0'
  exact keyTokens_perm ctx (hperm.trans hperm'.symm) (hk.nodup_iff.mpr hp)
    (fun h => hr (hk.mem_iff.mp h))

/-! The narrow form (partial keyword arguments only after the positional arguments) is the special case
`r := j - i` of the general one, where no partial keyword argument names one of the parameters `i..j`. -/

structure NarrowPresentation (params : List String) (vs : List Arg) where
  i : Nat
  j : Nat
  pk : KwMap
  kw : KwMap
  hij : i ≤ j
  hj : j ≤ params.length
  rest : (pk ++ kw).Perm ((binding params vs).drop j)

theorem NarrowPresentation.narrowRest {params : List String} {vs : List Arg} (hp : params.Nodup)
    (hl : vs.length = params.length) (p : NarrowPresentation params vs) :
    NarrowRest (binding params vs) p.i p.j p.pk p.kw :=
  narrow_rest (binding_nodup hp hl) p.hij (by rw [binding_length hl]; exact p.hj) p.rest

def NarrowPresentation.toPresentation {params : List String} {vs : List Arg} (hp : params.Nodup)
    (hl : vs.length = params.length) (p : NarrowPresentation params vs) : Presentation params vs :=
  have hn := p.narrowRest hp hl
  { i := p.i, pk := p.pk, r := p.j - p.i, kw := p.kw
    hi := Nat.le_trans p.hij p.hj
    hpkN := hn.pk_nodup
    hpk := hn.pk_mem
    hr := by
      unfold restBindings
      rw [hn.filter_eq, List.length_append, hn.length_take]; exact Nat.le_add_right _ _
    hkw := by
      unfold restBindings
      rw [hn.filter_eq, List.drop_left' hn.length_take]
      exact hn.kw_perm }

theorem NarrowPresentation.args_eq {params : List String} {vs : List Arg} (hp : params.Nodup)
    (hl : vs.length = params.length) (p : NarrowPresentation params vs) :
    (p.toPresentation hp hl).args = (vs.drop p.i).take (p.j - p.i) := by
  have hn := p.narrowRest hp hl
  show ((restBindings params vs p.i p.pk).take (p.j - p.i)).map (·.2) = _
  unfold restBindings
  rw [hn.filter_eq, List.take_left' hn.length_take, List.map_take, List.map_drop, binding_vals hl]

theorem presentation_invariance_narrow (params : List String) (vs : List Arg) (hp : params.Nodup)
    (hl : vs.length = params.length) (p : NarrowPresentation params vs) :
    ∃ m, effKw params (vs.take p.i) p.pk ((vs.drop p.i).take (p.j - p.i)) p.kw = .ok m ∧
      SameMap m (binding params vs) ∧ (m.map (·.1)).Perm params := by
  have := presentation_invariance params vs hp hl (p.toPresentation hp hl)
  rwa [NarrowPresentation.args_eq hp hl p] at this

/-- `hd`, `hc` only fill the unused `_hd`, `_hc` of `presentation_same_key` -/
theorem presentation_same_key_narrow (params : List String) (vs : List Arg) (hp : params.Nodup)
    (hl : vs.length = params.length) (p q : NarrowPresentation params vs) (ctx : KwMap)
    (hd : ∀ v ∈ vs, DistinctJ (encode v)) (hc : DistinctJ (encode (.dict (ArgObj.ofList ctx))))
    (hr : "_memento_context_args" ∉ params) :
    ∀ m m', effKw params (vs.take p.i) p.pk ((vs.drop p.i).take (p.j - p.i)) p.kw = .ok m →
      effKw params (vs.take q.i) q.pk ((vs.drop q.i).take (q.j - q.i)) q.kw = .ok m' →
      keyTokens m ctx = keyTokens m' ctx := by
  have := presentation_same_key params vs hp hl (p.toPresentation hp hl) (q.toPresentation hp hl)
    ctx hd hc hr
  rwa [NarrowPresentation.args_eq hp hl p, NarrowPresentation.args_eq hp hl q] at this

/-- the motivating case of the general form: `def area(w, h)`, `area.partial(w=3)(4)` binds `h = 4` -/
example : effKw ["w", "h"] [] [("w", .int 3)] [.int 4] [] = .ok [("w", .int 3), ("h", .int 4)] := by rfl

/-- and it is a `Presentation` of `w = 3, h = 4` -/
example : Presentation ["w", "h"] [.int 3, .int 4] where
  i := 0
  pk := [("w", .int 3)]
  r := 1
  kw := []
  hi := by decide
  hpkN := by simp
  hpk := by simp [binding]
  hr := by simp [restBindings, binding, kwHas]
  hkw := by simp [restBindings, binding, kwHas]

/-- successive `partial` calls are one `partial` call with the arguments appended and the keywords applied in order -/
theorem chained_partials_are_one (pargs : List Arg) (pkw : KwMap) (a a' : List Arg) (k k' : KwMap) :
    partialStep (partialStep pargs pkw a k).1 (partialStep pargs pkw a k).2 a' k' = partialStep pargs pkw (a ++ a') (k ++ k') := by
  simp [partialStep, List.foldl_append, List.append_assoc]

/-- **re-binding an already bound partial keyword binds the later value**: `f.partial(p=v).partial(p=w)` has the
    effective keyword arguments — hence the key tokens — of `f.partial(p=w)`, whatever `v` was (also when `v == w`
    in Python's sense but of another type) -/
theorem rebound_partial_binds_latest (params : List String) (pargs : List Arg) (pkw : KwMap) (p : String) (v w : Arg)
    (args : List Arg) (kwargs : KwMap) :
    let once := partialStep pargs pkw [] [(p, v)]
    let twice := partialStep once.1 once.2 [] [(p, w)]
    effKw params twice.1 twice.2 args kwargs = effKw params pargs (partialStep pargs pkw [] [(p, w)]).2 args kwargs := by
  simp only [partialStep, List.foldl_cons, List.foldl_nil, List.append_nil, kwSet_kwSet_same]

/-- an empty context dictionary is the same as none: the key tokens are those of the effective keyword arguments -/
theorem ctx_empty_is_absent (kw : KwMap) : keyTokens kw [] = ser (encode (.dict (ArgObj.ofList kw))) := rfl

theorem canonJO_encodeO_ofList : ∀ l : List (String × Arg),
    canonJO (encodeO (ArgObj.ofList l)) = l.map (fun p => (p.1, canonJ (encode p.2)))
  | [] => by simp [ArgObj.ofList, encodeO, canonJO]
  | (k, a) :: r => by simp [ArgObj.ofList, encodeO, canonJO, canonJO_encodeO_ofList r]

/-- context arguments are part of the key: when the reserved name is not a parameter, two non-empty context
    dictionaries that give the same key tokens have encodings with the same canonical form (`_hk`, `_hd`, `_hc`,
    `_hc'` are not used) -/
theorem ctx_distinguishes (kw ctx ctx' : KwMap) (_hk : (kw.map (·.1)).Nodup)
    (hr : "_memento_context_args" ∉ kw.map (·.1))
    (_hd : DistinctJ (encode (.dict (ArgObj.ofList kw))))
    (_hc : DistinctJ (encode (.dict (ArgObj.ofList ctx)))) (_hc' : DistinctJ (encode (.dict (ArgObj.ofList ctx'))))
    (hne : ctx ≠ []) (hne' : ctx' ≠ [])
    (h : keyTokens kw ctx = keyTokens kw ctx') :
    canonJ (encode (.dict (ArgObj.ofList ctx))) = canonJ (encode (.dict (ArgObj.ofList ctx'))) := by
  unfold keyTokens at h
  rw [withCtx_fresh hne hr, withCtx_fresh hne' hr] at h
  have hc := ser_injective' h
  simp only [encode, canonJ, JVal.obj.injEq] at hc
  have hs := jobjOfList_injective hc
  rw [canonJO_encodeO_ofList, canonJO_encodeO_ofList, List.map_append, List.map_append] at hs
  simp only [List.map_cons, List.map_nil] at hs
  exact sortKV_snoc_inj (by rw [map_fst_map_snd (fun a => canonJ (encode a))]; exact hr) hs

/-- the hashed text: keys sorted, no spaces, non-ASCII escaped -/
example : render (keyTokens [("b", .int 1), ("a", .list (.cons (.bool true) (.cons .none .nil)))] [("k", .str "é")])
    = "{\"_memento_context_args\":{\"k\":\"\\u00e9\"},\"a\":[true,null],\"b\":1}" := by decide +kernel

end Memento.ArgHash
