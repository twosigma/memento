import MementoModel.Lemmas.QNameLemmas

/-!
# C12 — whatever was stored stays listable and readable as names and code evolve

Model: `Model/QName.lean` (character-level transcription of the naming code:
`FunctionReference.__init__`/`parse_qualified_name` — the regular expression as explicit searches —,
`from_qualified_name`/`_find_function`, the external stub, the reference part of `decode_memento`
including the binding of stored positional arguments to parameter names,
`get_mementos`/`list_mementos`/`list_functions`, `_escape_key` and the listing of file names).

Admissible name parts (`Adm c m f v`):
* cluster: no `#`, no `::`, does not end in `:`;
* module: no `:`, no `#`;  function: no `#`, no `::`, does not start with `:`;
* version: **arbitrary** (may contain `:`, `::`, `#`, …) except for a newline.
The `boundary_*` theorems show that each restriction is needed (the scheme is ambiguous or the
regular expression stops there), so the round trip is stated for the largest natural domain.
Stored names (`AdmName`) additionally have a module that is not a relative import (`.x`).

"However the code base changes afterwards" is `∀ cb : CodeBase`: the code base at reading time is
universally quantified and unrelated to the one that stored the names. The only link the reading
theorems need is `SigOk`: a function found under the *same* module, name and version still accepts
the stored number of positional arguments (guaranteed by automatic versions, which hash the code;
the user's contract for explicit version strings — `boundary_signature_shrinks` shows what happens
otherwise).
-/
namespace Memento.QName

/-! ## (1) A qualified name splits back into exactly its parts -/

/-- **round trip**: for all admissible parts — in particular for every version string without a
    newline, whatever `:`/`::`/`#` it contains — parsing the built name returns exactly the parts -/
theorem parse_build (c : Option Str) (m f : Str) (v : Option Str) (h : Adm c m f v) :
    parse (build c m f v) = some ⟨c, m, f, v⟩ :=
  parse_build_core h

/-- non-vacuity: cluster `k:c`, module `a.b`, function `f`, version `v:1#x::y:z` -/
example :
    Adm (some ['k', ':', 'c']) ['a', '.', 'b'] ['f'] (some ['v', ':', '1', '#', 'x', ':', ':', 'y', ':', 'z']) ∧
    parse (build (some ['k', ':', 'c']) ['a', '.', 'b'] ['f'] (some ['v', ':', '1', '#', 'x', ':', ':', 'y', ':', 'z']))
      = some ⟨some ['k', ':', 'c'], ['a', '.', 'b'], ['f'], some ['v', ':', '1', '#', 'x', ':', ':', 'y', ':', 'z']⟩ := by
  refine ⟨⟨?_, ⟨by decide, by decide⟩, ⟨by decide, by decide, by decide⟩, by simp [VerOk]⟩, by decide +kernel⟩
  intro x hx; cases hx; exact ⟨by decide, by decide, by decide⟩

/-- the name a *registered* function gets (`MementoFunction.qualified_name_without_version`, then
    `FunctionReference.__init__`) is the same string as the stub name, hence parses back too -/
theorem parse_real_name (c : Option Str) (m q ver : Str) (h : Adm c m q (some ver)) :
    realName c m q ver = build c m q (some ver) ∧
    parse (realName c m q ver) = some ⟨c, m, q, some ver⟩ := by
  have e := realName_eq_build c ver h.base
  exact ⟨e, by rw [e]; exact parse_build c m q (some ver) h⟩

example : realName (some ['k']) ['m'] ['f'] ['1', ':', '2'] = ['k', ':', ':', 'm', ':', 'f', '#', '1', ':', '2'] := by decide +kernel

/-- distinct admissible parts never share a name: what is stored under a name is found under
    exactly that function/version again -/
theorem build_injective (c c' : Option Str) (m m' f f' : Str) (v v' : Option Str)
    (h : Adm c m f v) (h' : Adm c' m' f' v') (e : build c m f v = build c' m' f' v') :
    c = c' ∧ m = m' ∧ f = f' ∧ v = v' := by
  have a := parse_build c m f v h
  have b := parse_build c' m' f' v' h'
  rw [e, b] at a
  simp only [Option.some.injEq, Parts.mk.injEq] at a
  exact ⟨a.1.symm, a.2.1.symm, a.2.2.1.symm, a.2.2.2.symm⟩

example : build none ['m'] ['f'] (some ['1']) ≠ build none ['m'] ['f'] (some ['1', '0']) := by decide +kernel

/-- whatever parses can be rebuilt into a name that parses: constructing the external stub
    (`UnboundExternalMementoFunction.__init__` re-parses its own name) never fails, for *every*
    string — admissible or not -/
theorem stub_name_parses (s : Str) (p : Parts) (h : parse s = some p) :
    (parse (build p.cluster p.module p.function p.version)).isSome = true :=
  rebuild_parses h

example : parse ['a', ':', ':', ':', 'm', ':', 'f'] = some ⟨some ['a'], [], ['m', ':', 'f'], none⟩ := by decide +kernel

/-- a cluster name ending in `:` is split one character early -/
theorem boundary_cluster_trailing_colon :
    parse (build (some ['a', ':']) ['m'] ['f'] none) = some ⟨some ['a'], [], ['m', ':', 'f'], none⟩ := by decide +kernel

/-- a cluster name containing `#` makes the name unparsable (it would be ambiguous with a version
    containing `::`) -/
theorem boundary_cluster_hash : parse (build (some ['a', '#', 'b']) ['m'] ['f'] none) = none := by decide +kernel

/-- a function name starting with `:` loses its cluster prefix when the name is built -/
theorem boundary_function_leading_colon :
    build (some ['c']) ['m'] [':', 'f'] none = ['m', ':', ':', 'f'] ∧
    parse (build (some ['c']) ['m'] [':', 'f'] none) = some ⟨none, ['m'], [':', 'f'], none⟩ := by decide +kernel

/-- a newline ends the version (`.` in the regular expression) -/
theorem boundary_version_newline :
    parse (build none ['m'] ['f'] (some ['1', '\n', '2'])) = some ⟨none, ['m'], ['f'], some ['1']⟩ := by decide +kernel

/-! ## (2) File names: stored names are listed under exactly their name -/

/-- `urllib.parse.unquote`, through which the listing reads file names, undoes `_escape_key` on every name without `%` -/
theorem unquote_escape (s : Str) (h : '%' ∉ s) : unquote (escape s) = s :=
  unquote_escape_core h

example : escape ['k', ':', ':', 'm', ':', 'f', '#', 'v', ':', '1']
    = ['k', '%', '3', 'A', '%', '3', 'A', 'm', '%', '3', 'A', 'f', '#', 'v', '%', '3', 'A', '1'] := by decide +kernel

/-- the escaped name contains no `:` (the reason for escaping) -/
theorem escape_has_no_colon (s : Str) : ':' ∉ escape s := escape_no_colon s

/-- a function directory whose version ends in `.link` is not stripped -/
example : listedName true (escape ['m', ':', 'f', '#', 'x', '.', 'l', 'i', 'n', 'k'])
    = ['m', ':', 'f', '#', 'x', '.', 'l', 'i', 'n', 'k'] := by decide +kernel

/-- a link *file* `<escaped key>.link` is listed as exactly the key -/
theorem listed_link_key (k : Str) (h : '%' ∉ k) : listedName false (escape k ++ dotLink) = k := by
  have e : escape k ++ dotLink = escape (k ++ dotLink) := (escape_append k dotLink).symm
  rw [e, listedName, unquote_escape _ (by simp [h, dotLink])]
  exact stripLink_append k

example : listedName false ['a', 'b', '.', 'm', '.', 'l', 'i', 'n', 'k'] = ['a', 'b', '.', 'm'] := by decide +kernel

/-- why directories must not be treated like link files: stripping `.link` from a function
    directory would list a different version -/
theorem boundary_directory_not_stripped :
    stripLink (unquote (escape ['m', ':', 'f', '#', 'x', '.', 'l', 'i', 'n', 'k'])) = ['m', ':', 'f', '#', 'x'] := by decide +kernel

/-! ## (3) Resolving a stored name never fails: it is bound or external -/

/-- **resolution is total**: for every code base, a stored admissible name (admissible
    parts, module not a relative import) resolves to a reference — bound or external; no exception -/
theorem resolve_total (cb : CodeBase) (c : Option Str) (m f : Str) (v : Option Str) (pn : Option (List Str))
    (h : Adm c m f v) (hm : m.head? ≠ some '.') :
    ∃ r, resolve cb (build c m f v) false pn = .ok r :=
  ⟨_, resolve_build cb h pn hm⟩

example : resolve [] ['m', ':', 'f', '#', 'v', ':', '1'] false none
    = .ok ⟨true, ['m', ':', 'f', '#', 'v', ':', '1'], none, []⟩ := by rfl

/-- **bound iff module, function and version all match** (the cluster plays no role) -/
theorem resolve_bound_iff (cb : CodeBase) (c : Option Str) (m f : Str) (v : Option Str) (pn : Option (List Str))
    (h : Adm c m f v) (hm : m.head? ≠ some '.') :
    (∃ r, resolve cb (build c m f v) false pn = .ok r ∧ r.external = false) ↔
      (m ≠ [] ∧ hasLocals f = false ∧ Matches cb m f v) := by
  rw [resolve_build cb h pn hm]
  constructor
  · rintro ⟨r, hr, hext⟩
    cases hf : findFunction cb m f v with
    | ok x =>
      obtain ⟨h1, _, h3, h4⟩ := findFunction_ok_matches.mp ⟨x, hf⟩
      exact ⟨h1, h3, h4⟩
    | error e =>
      rw [hf] at hr
      cases hr
      cases hext
  · rintro ⟨h1, h3, h4⟩
    obtain ⟨x, hx⟩ := findFunction_ok_matches.mpr ⟨h1, hm, h3, h4⟩
    rw [hx]
    exact ⟨_, rfl, rfl⟩

/-- a reference to a version that no longer exists (function edited, removed, renamed, replaced by
    a plain function or value, module gone) is reported as an **external** reference carrying the
    stored name, cluster and parameter names unchanged — in the default cluster (`c = none`) as
    well as in a named one -/
theorem vanished_reference_is_external (cb : CodeBase) (c : Option Str) (m f : Str) (v : Option Str)
    (pn : Option (List Str)) (h : Adm c m f v) (hm : m.head? ≠ some '.') (hno : ¬ Matches cb m f v) :
    resolve cb (build c m f v) false pn = .ok ⟨true, build c m f v, c, pn.getD []⟩ := by
  rw [resolve_build cb h pn hm]
  cases hf : findFunction cb m f v with
  | ok x => exact absurd (findFunction_ok_matches.mp ⟨x, hf⟩).2.2.2 hno
  | error e => rfl

/-- non-vacuity: the callee was edited (registered version `2`), the stored reference names version `1`,
    default cluster -/
example : ¬ Matches [⟨['m'], [(['g'], .mfn none ['m'] ['g'] ['2'] [['x']])]⟩] ['m'] ['g'] (some ['1']) ∧
    resolve [⟨['m'], [(['g'], .mfn none ['m'] ['g'] ['2'] [['x']])]⟩] (build none ['m'] ['g'] (some ['1'])) false (some [['x']])
      = .ok ⟨true, ['m', ':', 'g', '#', '1'], none, [['x']]⟩ := by
  refine ⟨fun h => ?_, by rfl⟩
  -- `findFunction` computes to a version mismatch
  obtain ⟨x, hx⟩ := findFunction_ok_matches.mpr ⟨by decide, by decide, by decide, h⟩
  cases hx

/-- a current function registered under the same cluster, module and name with the stored version
    is **bound**, under exactly the stored name, with the parameter names of its signature -/
theorem current_reference_is_bound (cb : CodeBase) (c : Option Str) (m f ver : Str) (ps : List Str)
    (attrs : List (Str × Obj)) (pn : Option (List Str))
    (h : Adm c m f (some ver)) (hm : m.head? ≠ some '.') (hne : m ≠ []) (hl : hasLocals f = false)
    (h1 : lookupModule cb m = some attrs) (h2 : lookupAttr attrs f = some (.mfn c m f ver ps)) :
    resolve cb (build c m f (some ver)) false pn = .ok ⟨false, build c m f (some ver), c, ps⟩ := by
  have hf : findFunction cb m f (some ver) = .ok ⟨c, m, f, ver, ps⟩ :=
    findFunction_ok_iff.mpr ⟨hne, hm, hl, attrs, h1, h2, Or.inr rfl⟩
  have e : qualify (qnwv c m f) c (some ver) = build c m f (some ver) := realName_eq_build c ver h.base
  have e2 : pickCluster c c = c := by cases c <;> rfl
  rw [resolve_build cb h pn hm, hf]
  simp only [Option.getD_some, e, e2]

example : resolve [⟨['m'], [(['g'], .mfn (some ['k']) ['m'] ['g'] ['1', ':', 'a'] [])]⟩]
      (build (some ['k']) ['m'] ['g'] (some ['1', ':', 'a'])) false none
    = .ok ⟨false, ['k', ':', ':', 'm', ':', 'g', '#', '1', ':', 'a'], some ['k'], []⟩ := by rfl

/-- the only way `from_qualified_name` raises `ValueError` — for *any* string — is that the string
    itself does not parse -/
theorem resolve_valueError_iff (cb : CodeBase) (s : Str) (ext : Bool) (pn : Option (List Str)) :
    resolve cb s ext pn = .error .valueError ↔ parse s = none := by
  refine ⟨fun h => ?_, fun h => by simp only [resolve, h]⟩
  cases hp : parse s with
  | none => rfl
  | some p =>
    rw [resolve_of_parse hp] at h
    cases ext with
    | true => cases h
    | false =>
      cases hf : findFunction cb p.module p.function p.version with
      | ok fd => rw [hf] at h; cases h
      | error e => rw [hf] at h; cases e <;> cases h

/-! ## (4) Reading stored metadata never raises, however the code base has changed -/

/-- **reading never raises**: for every code base `cb` (however it evolved) and every stored
    memento with admissible references, decoding succeeds; the own call, every invocation and every
    dependency is decoded to exactly what `resolve` says (bound / external) -/
theorem read_never_raises (cb : CodeBase) (s : Stored) (h : AdmStored cb s) :
    ∃ r, readMemento cb s = .ok r ∧ resolve cb s.own.qn false s.own.params = .ok r.own ∧
      r.invocations.length = s.invocations.length ∧ r.deps.length = s.deps.length ∧
      (∀ i (hi : i < s.invocations.length) (hj : i < r.invocations.length),
        resolve cb s.invocations[i].qn false s.invocations[i].params = .ok r.invocations[i]) ∧
      (∀ i (hi : i < s.deps.length) (hj : i < r.deps.length),
        resolve cb s.deps[i].qn false s.deps[i].params = .ok r.deps[i]) := by
  obtain ⟨o, ho⟩ := call_decodes h.1.1 h.1.2
  obtain ⟨is, h1, h2, h3⟩ := mapAll_ok (decodeCall cb) s.invocations
    (fun q hq => call_decodes (h.2.1 q hq).1 (h.2.1 q hq).2)
  obtain ⟨ds, g1, g2, g3⟩ := mapAll_ok (decodeRef cb) s.deps
    (fun q hq => admName_resolves cb (h.2.2 q hq) q.params)
  exact ⟨⟨o, is, ds⟩, by simp [readMemento, ho, h1, g1], decodeCall_ok ho, h2, g2,
    fun i hi hj => decodeCall_ok (h3 i hi hj), g3⟩

/-- `get_mementos` (memento queries, and the look-up every call starts with) never raises -/
theorem getMemento_never_raises (cb : CodeBase) (st : MetaStore) (h : AdmStore cb st) (qn hh : Str) :
    ∃ r, getMemento cb st qn hh = .ok r := by
  cases hf : st.find qn hh with
  | none => exact ⟨none, by simp [getMemento, hf]⟩
  | some s =>
    obtain ⟨r, hr, _⟩ := read_never_raises cb s (h _ (MetaStore.find_mem hf))
    exact ⟨some r, by simp [getMemento, hf, hr]⟩

set_option linter.unusedVariables false in  -- `h`, bound in the `∀`, is matched on by the equations
/-- `list_mementos` never raises and returns one memento per stored entry of the function -/
theorem listMementos_never_raises (cb : CodeBase) : ∀ (st : MetaStore) (h : AdmStore cb st) (qn : Str),
    ∃ rs, listMementos cb st qn = .ok rs ∧ rs.length = (st.filter (fun e => e.1 = qn)).length
  | [], _, _ => ⟨[], rfl, rfl⟩
  | (q, a, s) :: r, h, qn => by
    obtain ⟨rs, h1, h2⟩ := listMementos_never_raises cb r (fun e he => h e (List.mem_cons_of_mem _ he)) qn
    by_cases hq : q = qn
    · obtain ⟨x, hx, _⟩ := read_never_raises cb s (h (q, a, s) (by simp))
      exact ⟨x :: rs, by simp [listMementos, hq, hx, h1], by simp [hq, h2]⟩
    · exact ⟨rs, by simp [listMementos, hq, h1], by simp [hq, h2]⟩

/-- **an entry whose own version is current is served**: the memento stored under the current
    name of a registered function is returned by the query, its own reference bound under exactly
    that name, whatever happened to the functions it refers to (each of them is decoded to what
    `resolve` says: external exactly when nothing matches any more, by `resolve_bound_iff`) -/
theorem current_entry_is_served (cb : CodeBase) (st : MetaStore) (c : Option Str) (m f ver hh : Str)
    (ps : List Str) (attrs : List (Str × Obj)) (s : Stored)
    (h : Adm c m f (some ver)) (hm : m.head? ≠ some '.') (hne : m ≠ []) (hl : hasLocals f = false)
    (h1 : lookupModule cb m = some attrs) (h2 : lookupAttr attrs f = some (.mfn c m f ver ps))
    (hfind : st.find (realName c m f ver) hh = some s) (hown : s.own.qn = realName c m f ver)
    (hadm : AdmStored cb s) :
    ∃ r, getMemento cb st (realName c m f ver) hh = .ok (some r) ∧
      r.own = ⟨false, realName c m f ver, c, ps⟩ ∧
      r.invocations.length = s.invocations.length ∧
      ∀ i (hi : i < s.invocations.length) (hj : i < r.invocations.length),
        resolve cb s.invocations[i].qn false s.invocations[i].params = .ok r.invocations[i] := by
  have e := realName_eq_build c ver h.base
  obtain ⟨r, hr, ho, hl', _, hi, _⟩ := read_never_raises cb s hadm
  refine ⟨r, by simp [getMemento, hfind, hr], ?_, hl', hi⟩
  have := current_reference_is_bound cb c m f ver ps attrs (pn := s.own.params) h hm hne hl h1 h2
  rw [hown, e, this] at ho
  injection ho with ho
  rw [← ho, e]

/-- non-vacuity (default cluster): caller `m:f#p:1` pinned, its stored memento records the call
    `m:g#1 (x)`; `g` has since been edited to version `2` — the entry is served, `g#1` is external -/
example :
    getMemento [⟨['m'], [(['f'], .mfn none ['m'] ['f'] ['p', ':', '1'] [['x']]), (['g'], .mfn none ['m'] ['g'] ['2'] [['x']])]⟩]
      [(realName none ['m'] ['f'] ['p', ':', '1'], ['h'],
        ⟨⟨realName none ['m'] ['f'] ['p', ':', '1'], some [['x']], 1⟩,
         [⟨realName none ['m'] ['g'] ['1'], some [['x']], 1⟩], []⟩)]
      (realName none ['m'] ['f'] ['p', ':', '1']) ['h']
    = .ok (some ⟨⟨false, ['m', ':', 'f', '#', 'p', ':', '1'], none, [['x']]⟩,
                 [⟨true, ['m', ':', 'g', '#', '1'], none, [['x']]⟩], []⟩) := by
  rfl

/-- why `SigOk` is needed: a callee that keeps its *explicit* version `1` but loses its positional
    parameter makes decoding the recorded call `g(3)` raise `ValueError` (observed on the real code) -/
theorem boundary_signature_shrinks :
    decodeCall [⟨['m'], [(['g'], .mfn none ['m'] ['g'] ['1'] [])]⟩]
      ⟨['m', ':', 'g', '#', '1'], some [['x']], 1⟩ = .error .valueError := by rfl

/-- listings (filesystem): every function directory is decoded without an exception -/
theorem listFunctionsFs_never_raises (cb : CodeBase) (dirs : List Str)
    (h : ∀ d ∈ dirs, ∃ q, AdmName q ∧ '%' ∉ q ∧ d = escape q) :
    ∃ rs, listFunctionsFs cb dirs = .ok rs ∧ rs.length = dirs.length := by
  obtain ⟨rs, h1, h2⟩ := mapAll_decodeRef_names cb (dirs.map (fun e => nameOnly (listedName true e))) (fun q hq => by
    obtain ⟨d, hd, rfl⟩ := List.mem_map.mp hq
    obtain ⟨q', ha, hp, rfl⟩ := h d hd
    rw [nameOnly, listed_function_name hp]
    exact ha)
  exact ⟨rs, h1, by rw [h2, List.length_map]⟩

/-- the directory of a function that is currently registered yields, in the listing, the bound reference under exactly
    its name -/
theorem stored_function_is_listed (cb : CodeBase) (dirs : List Str) (rs : List Ref)
    (c : Option Str) (m f ver : Str) (ps : List Str) (attrs : List (Str × Obj))
    (h : Adm c m f (some ver)) (hm : m.head? ≠ some '.') (hne : m ≠ []) (hl : hasLocals f = false)
    (h1 : lookupModule cb m = some attrs) (h2 : lookupAttr attrs f = some (.mfn c m f ver ps))
    (hp : '%' ∉ realName c m f ver) (hd : escape (realName c m f ver) ∈ dirs)
    (hls : listFunctionsFs cb dirs = .ok rs) :
    ⟨false, realName c m f ver, c, ps⟩ ∈ rs := by
  have e := realName_eq_build c ver h.base
  refine mapAll_mem (q := nameOnly (realName c m f ver)) hls ?_ ?_
  · exact List.mem_map.mpr ⟨_, hd, by rw [listed_function_name hp]⟩
  · simp only [decodeRef, nameOnly]
    rw [e]
    exact current_reference_is_bound cb c m f ver ps attrs (pn := none) h hm hne hl h1 h2

/-- listings (memory backend: the dictionary keys are the names themselves) -/
theorem listFunctionsMem_never_raises (cb : CodeBase) (keys : List Str) (h : ∀ q ∈ keys, AdmName q) :
    ∃ rs, listFunctionsMem cb keys = .ok rs ∧ rs.length = keys.length := by
  obtain ⟨rs, h1, h2⟩ := mapAll_decodeRef_names cb (keys.map nameOnly) (fun q hq => by
    obtain ⟨k, hk, rfl⟩ := List.mem_map.mp hq
    exact h k hk)
  exact ⟨rs, h1, by rw [h2, List.length_map]⟩

/-- the first is bound, its version ending in `.link` unstripped; the second is not in the code base: external -/
example : listFunctionsFs [⟨['m'], [(['f'], .mfn none ['m'] ['f'] ['x', '.', 'l', 'i', 'n', 'k'] [])]⟩]
      [escape (realName none ['m'] ['f'] ['x', '.', 'l', 'i', 'n', 'k']), escape (realName (some ['k']) ['m'] ['g'] ['1'])]
    = .ok [⟨false, ['m', ':', 'f', '#', 'x', '.', 'l', 'i', 'n', 'k'], none, []⟩,
           ⟨true, ['k', ':', ':', 'm', ':', 'g', '#', '1'], some ['k'], []⟩] := by rfl

/-- the one exception that can escape (outside the admissible domain): a module name starting with
    `.` makes `importlib.import_module` raise `TypeError`, which `from_qualified_name` does not catch -/
theorem boundary_relative_module :
    resolve [] ['.', 'x', ':', 'f'] false none = .error .typeError := by rfl

end Memento.QName
