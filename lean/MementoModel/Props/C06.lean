import MementoModel.Lemmas.CacheLemmas
import MementoModel.Lemmas.CacheRoom

/-!
# C06 — the memory cache is bounded, least-recently-used, and keeps honest accounts

The property, in four clauses: for any history of cache use,
(1) the memory attributed to resident entries never exceeds the configured budget;
(2) a result larger than the budget is never resident;
(3) when room is needed the entries dropped are those least recently written or read, while more recently used ones keep
    being served without touching the underlying store;
(4) the usage counter always equals what the resident entries account for, so it returns to zero once everything has been
    forgotten, by whatever sequence of forget operations.

The model is `Model/Cache.lean`, a statement-by-statement transcription of `MemoryCache`. The theorems are about every
reachable state (`run (init b) ops`), about every state that satisfies the invariant `Inv` (`inv_reachable`: every
reachable one does), or about every state.
-/
namespace Memento.Cache

theorem inv_reachable (b : Nat) (ops : List Op) : Inv (run (init b) ops) :=
  run_inv ops (inv_init b)

/-- (1) and the first half of (4), in every reachable state -/
theorem bounded_and_honest (b : Nat) (ops : List Op) :
    let s := run (init b) ops
    s.usage = total s.cache ∧ total s.cache ≤ b := by
  have h := inv_reachable b ops
  have hb : (run (init b) ops).budget = b := run_budget ops _
  exact ⟨h.usage_eq, by have := h.bounded; rw [h.usage_eq, hb] at this; exact this⟩

/-- (2): after `put` of an oversize result there is **no** resident entry for that call at all, neither the new value
    nor a stale older one -/
theorem oversize_never_resident (s : State) (k : Key) (m v size : Nat) (w hr : Bool) (vc : Option Nat)
    (hbig : size > s.budget) : k ∉ keys (step s (.put k m v size w hr vc)).1.cache :=
  put_cases (P := fun s' => k ∉ keys s'.cache) s k m v size w hr vc (fun _ _ => evict_not_mem _ k)
    fun _ h => absurd hbig (Nat.not_lt.mpr h)

/-- (2): in every reachable state every resident entry fits the budget -/
theorem resident_entries_fit (b : Nat) (ops : List Op) :
    ∀ p ∈ (run (init b) ops).cache, p.2.size ≤ b := by
  intro p hp
  have := (inv_reachable b ops).sizes p hp
  rwa [run_budget] at this

/-- (3), stated for `putCore`, the part of `put` after the size test (`put` of a result that fits is `putCore` from a state
    that differs in its weak references only: `put_cases`): what it drops to make room is a **prefix** of the recency
    queue (after removing the key being written), i.e. exactly the `n` least recently written/read entries; every
    survivor was used strictly later than every dropped entry; survivors keep their entries untouched; and `n` is
    minimal: dropping fewer would not have made room. -/
theorem put_evicts_lru_prefix {s : State} (h : Inv s) (k : Key) (m v size : Nat) (hr : Bool)
    (hsz : size ≤ s.budget) :
    let q := s.lru.erase k                       -- recency queue without the written key
    let s' := putCore s k m v size hr
    ∃ n, s'.lru = q.drop n ++ [k]
      ∧ (∀ j, j ∈ keys s'.cache ↔ j = k ∨ j ∈ q.drop n)
      ∧ (∀ j ∈ q.drop n, lookup s'.cache j = lookup s.cache j)
      ∧ (∀ a ∈ q.take n, ∀ b ∈ q.drop n, s.stamp a < s.stamp b)
      ∧ (∀ n' < n, total ((evict s k).cache.filter (fun p => !((q.take n').contains p.1))) + size > s.budget) := by
  dsimp only
  obtain ⟨n, hi, hl, hc, hmin⟩ := putCore_spec k m v size hr h hsz
  have hknq : k ∉ s.lru.erase k := fun hx => (h.lru_nodup.mem_erase_iff.mp hx).1 rfl
  have cut : ∀ {R : Key → Key → Prop}, (s.lru.erase k).Pairwise R →
      ∀ a ∈ (s.lru.erase k).take n, ∀ b ∈ (s.lru.erase k).drop n, R a b := fun hR =>
    (List.pairwise_append.mp ((List.take_append_drop n (s.lru.erase k)).symm ▸ hR)).2.2
  refine ⟨n, hl, fun j => ?_, fun j hj => ?_, cut (h.sorted.erase k), ?_⟩
  · rw [← hi.lru_mem, hl, List.mem_append, List.mem_singleton]
    exact Or.comm
  · have hjk : j ≠ k := fun e => hknq (e ▸ (List.mem_of_mem_drop hj : j ∈ s.lru.erase k))
    have hjt : j ∉ (s.lru.erase k).take n := fun hx => cut (h.lru_nodup.erase k) j hx j hj rfl
    rw [hc, lookup_append_of_ne (Ne.symm hjk), lookup_removeAll, if_neg hjt, lookup_remove_of_ne hjk]
  · -- the filter in the statement is `removeAll`, unfolded
    rw [evict_cache]
    exact hmin

/-- (3): a resident entry with a value is served from the cache itself (the backend never
    consults the store for it — see `FsBackend.read_hit_no_store_access` for the backend level), and
    reading marks it most recently used. -/
theorem resident_hit_served (s : State) (k : Key) (e : Entry) (h : lookup s.cache k = some e)
    (hv : e.hasValue = true) :
    (readResult s k).2 = .value e.val ∧ (readResult s k).1.lru = s.lru.erase k ++ [k] := by
  simp [readResult, h, hv, markUsed, touchStamp]

/-- (4), second half: in **every** reachable state with no resident entry the counter is zero, whatever emptied the cache -/
theorem usage_zero_when_nothing_resident (b : Nat) (ops : List Op)
    (hempty : (run (init b) ops).cache = []) : (run (init b) ops).usage = 0 := by
  rw [(inv_reachable b ops).usage_eq, hempty]; rfl

/-- (4): forgetting each resident call one by one (in any order `ks` that covers them) empties the cache -/
theorem forget_all_calls_empties (s : State) (ks : List Key) (hcover : ∀ k ∈ keys s.cache, k ∈ ks) :
    (run s (ks.map Op.fcall)).cache = [] :=
  run_forgets_empties (fun _ h => by obtain ⟨k, _, rfl⟩ := List.mem_map.mp h; rfl)
    fun k hk => ⟨.fcall k, List.mem_map.mpr ⟨k, hcover k hk, rfl⟩, beq_self_eq_true k⟩

/-- (4): forgetting each function that has a resident entry empties the cache -/
theorem forget_all_functions_empties (s : State) (fns : List Nat) (hcover : ∀ k ∈ keys s.cache, k.fn ∈ fns) :
    (run s (fns.map Op.ffn)).cache = [] :=
  run_forgets_empties (fun _ h => by obtain ⟨f, _, rfl⟩ := List.mem_map.mp h; rfl)
    fun k hk => ⟨.ffn k.fn, List.mem_map.mpr ⟨k.fn, hcover k hk, rfl⟩, beq_self_eq_true k.fn⟩

/-- (4): `forget_everything` does it in one step: nothing resident, counter zero -/
theorem forget_everything_zero (s : State) :
    (step s .fall).1.cache = [] ∧ (step s .fall).1.usage = 0 := by
  simp [step, stepRaw, prune, forgetEverything]

/-- (3), group queries: `is_all_memoized` over a group of calls leaves every entry resident and marks **every** queried
    call that is resident as used — also those listed after a call that is not memoized: afterwards each of them was used
    later than every call outside the group, so a put that needs room drops the calls outside the group first
    (`put_evicts_lru_prefix`). -/
theorem group_query_marks_every_resident {s : State} (h : Inv s) (ks : List Key) (k : Key) (hk : k ∈ ks)
    (hres : k ∈ keys s.cache) (j : Key) (hj : j ∉ ks) :
    let s' := (step s (.allmem ks)).1
    s'.cache = s.cache ∧ s'.stamp j = s.stamp j ∧ s'.stamp j < s'.stamp k := by
  simp only [step, stepRaw, prune]
  refine ⟨(isAllMemoized_spec ks s).1.cache, isAllMemoized_stamp_other ks j hj s, ?_⟩
  rw [isAllMemoized_stamp_other ks j hj s]
  exact Nat.lt_of_lt_of_le (h.stamp_lt j) (isAllMemoized_stamp_queried ks k hk s hres)

/-- the answer of `is_all_memoized`: every queried call is resident or still weakly referenced -/
theorem group_query_answer (ks : List Key) : ∀ s : State,
    (isAllMemoized s ks).2 = ks.all (fun k => hasKey s.cache k || (refLookup s.refs k).isSome) := by
  induction ks with
  | nil => intro s; rfl
  | cons k ks ih =>
    intro s
    have t := isMemoized_touched s k
    simp only [isAllMemoized, List.all_cons]
    rw [ih, t.cache, t.refs, isMemoized_snd]

end Memento.Cache

/-! ## Backend level: "… keep being served without touching the underlying store"

The filesystem backend of `Model/Store.lean` consults its cache first. That the store is not consulted is stated as: the
answer for a resident call is the same whatever the store holds. -/
namespace Memento.Store.FsBackend
open Memento

/-- a resident entry with a value is read from the cache: the same answer whatever the store holds (`d'` arbitrary),
    and the store is left as it is -/
theorem read_hit_no_store_access (s : FsBackend) (c : Cache.State) (hc : s.cache = some c) (mem size : Nat) (wr : Bool)
    (mi : MInfo) (hm : alookup s.heap mem = some mi) (e : Cache.Entry)
    (he : Cache.lookup c.cache (ckey mi.fn mi.arg) = some e) (hv : e.hasValue = true) (d' : DS) :
    (readResult { s with ds := d' } mem size wr).2 = some (objBytes e.val) ∧
    (readResult s mem size wr).2 = some (objBytes e.val) ∧ (readResult s mem size wr).1.ds = s.ds := by
  have hr := Cache.resident_hit_served c (ckey mi.fn mi.arg) e he hv
  -- the cache's answer as a pair with its second component known, so that the `match` on it in `readResult` reduces
  have hrr : Cache.readResult c (ckey mi.fn mi.arg) = ((Cache.readResult c (ckey mi.fn mi.arg)).1, .value e.val) := by
    rw [← hr.1]
  have key : ∀ s' : FsBackend, s'.cache = some c → alookup s'.heap mem = some mi →
      (readResult s' mem size wr).2 = some (objBytes e.val) ∧ (readResult s' mem size wr).1.ds = s'.ds := by
    intro s' hc' hm'
    unfold readResult
    simp only [hm', hc']
    rw [hrr]
    exact ⟨rfl, rfl⟩
  exact ⟨(key { s with ds := d' } hc hm).1, (key s hc hm).1, (key s hc hm).2⟩

/-- a look-up of calls that are all resident is answered from the cache: state unchanged, the same answer whatever the
    store holds -/
theorem lookup_hit_no_store_access (s : FsBackend) (c : Cache.State) (hc : s.cache = some c) (ks : List (Fn × Arg))
    (hall : ∀ k ∈ ks, (Cache.lookup c.cache (ckey k.1 k.2)).isSome) (d' : DS) :
    getMementos { s with ds := d' } ks =
      ({ s with ds := d' }, ks.map (fun k => (Cache.lookup c.cache (ckey k.1 k.2)).map (·.mem))) := by
  unfold getMementos
  rw [mergeMementos_all_cached]
  · simp only [List.map_map]
    congr 1
    apply List.map_congr_left
    intro k _
    simp only [Function.comp, cacheLookup, hc]
  · intro p hp
    obtain ⟨k, hk, rfl⟩ := List.mem_map.mp hp
    simp only [cacheLookup, hc, Option.isSome_map]
    exact hall k hk

/-- a look-up of any group of calls (resident or not, memoized or not) leaves every resident entry — its value, its
    memento, its size — exactly as it is, as long as there is room for the memento-only entries (16 bytes each) of the
    calls it fetches; so a resident value stays servable from memory (`read_hit_no_store_access`) -/
theorem lookup_keeps_resident_values {s : FsBackend} {c : Cache.State} (hc : s.cache = some c) (ks : List (Fn × Arg))
    (hroom : c.usage + 16 * ks.length ≤ c.budget) (k : Cache.Key) (e : Cache.Entry)
    (he : Cache.lookup c.cache k = some e) :
    ∃ c', (getMementos s ks).1.cache = some c' ∧ Cache.lookup c'.cache k = some e := by
  unfold getMementos
  refine mergeMementos_keeps hc he ?_ (by simpa using hroom)
  intro p hp hnone
  obtain ⟨q, _, rfl⟩ := List.mem_map.mp hp
  exact cacheLookup_none_ne hc he hnone

/-- the hypotheses of `lookup_keeps_resident_values` can be met: after one memoize the call `(1, 1)` is resident with its
    value and there is room for two memento-only entries; a look-up of two other calls leaves it resident -/
private def demoB : FsBackend := (step (FsBackend.init false (some 1000)) (.memoize 1 1 none 7 (some 3) 40 false)).1

example : (match demoB.cache with
    | some c => (Cache.lookup c.cache (ckey 1 1)).any (·.hasValue) && decide (c.usage + 16 * 2 ≤ c.budget)
    | none => false) = true := by decide +kernel

example : (match (getMementos demoB [(2, 1), (1, 2)]).1.cache with
    | some c => (Cache.lookup c.cache (ckey 1 1)).any (·.hasValue)
    | none => false) = true := by decide +kernel

end Memento.Store.FsBackend

namespace Memento.Cache

private def k1 : Key := ⟨1, 1⟩
private def k2 : Key := ⟨1, 2⟩
private def k3 : Key := ⟨2, 1⟩

/-- budget 100: after the read of `k1` the put for `k3` finds `k2` least recently used; the last put is oversize -/
private def demoOps : List Op :=
  [.put k1 10 101 40 false true none, .put k2 11 102 40 false true none, .read k1,
   .put k3 12 103 40 false true none, .put k1 13 104 200 false true none]

example : keys (run (init 100) demoOps).cache = [k3] ∧ (run (init 100) demoOps).usage = 40 := by decide
example : keys (run (init 100) (demoOps.take 4)).cache = [k1, k3] := by decide   -- k2 (LRU) was dropped, k1 kept
example : (run (init 100) (demoOps ++ [.fcall k3])).usage = 0 := by decide
/-- a group query `[missing, k1]` marks k1 used although it is listed after a call that is not memoized: the next put
    that needs room drops k2 and keeps k1 -/
example : keys (run (init 100) [.put k1 10 101 40 false true none, .put k2 11 102 40 false true none,
    .allmem [k3, k1], .put k3 12 103 40 false true none]).cache = [k1, k3] := by decide

end Memento.Cache
