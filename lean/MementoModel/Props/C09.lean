import MementoModel.Lemmas.ConcLemmas

/-!
# C09 — concurrent callers: single flight per call, correct values, under every schedule

Model: `Model/Conc.lean` — the transition system whose events are the shared-state access points of
`batch_run` / `memento_run_local` (pre-check outside the per-call mutex, acquire, lookup inside the mutex,
execute, memoize, release) and the methods of the memory cache (atomic since fix F9). A *schedule* is any
interleaving of these events that the system accepts: `run (init memo0 budget) trace = some s`. All
statements below are for **every** accepted trace: any number of threads and keys, equal or different
arguments, any initial store (`memo0`: cold or warm), any cache budget and cache operations anywhere.

Partial, stated as such: a thread of the model is an *invocation*. A nested call under concurrency is a further
model thread, running the same protocol on a different key between its caller's `exec` and `memoize` events, so the
safety theorems cover it; `progress` is for threads that take no nested steps (for a thread at `executed` it finds
that thread's `memoize`, which a frame waiting for a nested call cannot take yet). Values are not in the model — a
call that is served is served from the memoized entry of its key, whose value is the body's by C02. Trusted: CPython
threads interleave at the granularity of these events (`threading.RLock` gives mutual exclusion; a cache method under
its lock is atomic).
-/
namespace Memento.Conc

theorem inv_reachable {memo0 : K → Bool} {b : Nat} {trace : List Ev} {s : St}
    (h : run (init memo0 b) trace = some s) : Inv memo0 s :=
  run_inv memo0 trace _ s (inv_init memo0 b) h

/-- **single flight**: under every schedule the body of a call runs at most once; never if the call was memoized
    beforehand; exactly once if it was not and is memoized afterwards -/
theorem single_flight (memo0 : K → Bool) (b : Nat) (trace : List Ev) (s : St)
    (h : run (init memo0 b) trace = some s) (k : K) :
    s.execs k ≤ 1 ∧ (memo0 k = true → s.execs k = 0) ∧ (memo0 k = false → s.memo k = true → s.execs k = 1) := by
  have hi := inv_reachable h
  exact ⟨hi.exec_le k, hi.exec_init k, hi.exec_st k⟩

/-- every call that has returned to its caller is memoized, and its body ran exactly once in total (not at all if it was
    memoized beforehand) — whatever the other threads did meanwhile -/
theorem completed_call_ran_once (memo0 : K → Bool) (b : Nat) (trace : List Ev) (s : St)
    (h : run (init memo0 b) trace = some s) (k : K) (hc : s.completed k = true) :
    s.memo k = true ∧ s.execs k = (if memo0 k then 0 else 1) := by
  have hi := inv_reachable h
  have hm := hi.compl k hc
  refine ⟨hm, ?_⟩
  cases h0 : memo0 k with
  | true => simp [hi.exec_init k h0]
  | false => simp [hi.exec_st k h0 hm]

/-- nothing memoized is ever lost, and a memoized call never executes again -/
theorem memoized_stays (memo0 : K → Bool) (b : Nat) (trace : List Ev) (s : St)
    (h : run (init memo0 b) trace = some s) (k : K) (h0 : memo0 k = true) : s.memo k = true ∧ s.execs k = 0 := by
  have hi := inv_reachable h
  exact ⟨hi.mono k h0, hi.exec_init k h0⟩

/-- mutual exclusion of the per-call mutex: two threads between acquire and release for the same call are one thread -/
theorem mutual_exclusion (memo0 : K → Bool) (b : Nat) (trace : List Ev) (s : St)
    (h : run (init memo0 b) trace = some s) (t t' : Tid)
    (ht : inCrit (s.pc t) = true) (ht' : inCrit (s.pc t') = true) (hk : s.key t = s.key t') : t = t' := by
  have hi := inv_reachable h
  have h1 := hi.holds t ht
  have h2 := hi.holds t' ht'
  rw [hk] at h1
  rw [h1] at h2
  exact Option.some.inj h2

/-- a body runs only while no result exists for its call: at the moment a thread has executed, the call is not memoized
    and this is the only execution -/
theorem executes_only_unmemoized (memo0 : K → Bool) (b : Nat) (trace : List Ev) (s : St)
    (h : run (init memo0 b) trace = some s) (t : Tid) (ht : s.pc t = .executed) :
    s.memo (s.key t) = false ∧ s.execs (s.key t) = 1 :=
  (inv_reachable h).comp t ht

/-- **the memory cache's accounting** after any interleaving of cache operations with everything else: the usage counter
    equals what the resident entries account for and stays within the budget (every reachable cache state satisfies
    the invariant of C06) -/
theorem cache_accounts_honest (memo0 : K → Bool) (b : Nat) (trace : List Ev) (s : St)
    (h : run (init memo0 b) trace = some s) :
    s.cache.usage = Cache.total s.cache.cache ∧ s.cache.usage ≤ s.cache.budget ∧ (Cache.keys s.cache.cache).Nodup ∧ s.cache.lru.Nodup := by
  have hi := (inv_reachable h).cache
  exact ⟨hi.usage_eq, hi.bounded, hi.keys_nodup, hi.lru_nodup⟩

def cacheOps : List Ev → List Cache.Op
  | [] => []
  | .cacheOp _ op :: es => op :: cacheOps es
  | _ :: es => cacheOps es

theorem step_cache {s s' : St} {e : Ev} (h : step s e = some s') : s'.cache = Cache.run s.cache (cacheOps [e]) := by
  cases e with
  | cacheOp t op => cases h; rfl
  | _ => simp only [step, Option.ite_none_right_eq_some, Option.some.injEq] at h; rw [← h.2]; rfl

/-- the cache state after a concurrent trace is the state after a *sequential* history of cache operations: those of
    the trace, in the order they took effect -/
theorem cache_sequential (trace : List Ev) : ∀ (s s' : St), run s trace = some s' →
    s'.cache = Cache.run s.cache (cacheOps trace) := by
  intro s s' h
  fun_induction run s trace with
  | case1 s => cases h; rfl
  | case2 s e es s1 hst ih =>
    rw [ih h, step_cache hst]
    cases e <;> rfl
  | case3 s e es hst => cases h

/-- **no deadlock**: while some call is in progress, some thread can take a step -/
theorem progress (memo0 : K → Bool) (b : Nat) (trace : List Ev) (s : St)
    (h : run (init memo0 b) trace = some s) (t : Tid) (ht : s.pc t ≠ .idle) :
    ∃ e, (match e with | .cacheOp _ _ => False | .start _ _ => False | _ => True) ∧ (step s e).isSome = true := by
  have hi := inv_reachable h
  -- the thread that can step: the holder of the mutex of `t`'s key, which is inside its critical section, or `t` itself if
  -- that mutex is free
  obtain ⟨u, hne, hfree⟩ : ∃ u, s.pc u ≠ .idle ∧ (s.pc u = .wantLock → s.holder (s.key u) = none) := by
    cases hh : s.holder (s.key t) with
    | none => exact ⟨t, ht, fun _ => hh⟩
    | some u =>
      have hc := (hi.held _ u hh).1
      exact ⟨u, fun e => (by rw [e] at hc; cases hc), fun e => (by rw [e] at hc; cases hc)⟩
  cases hp : s.pc u with
  | idle => exact absurd hp hne
  | started => exact ⟨.pre u (s.memo (s.key u)), trivial, by simp [step, hp]⟩
  | wantLock => exact ⟨.acq u, trivial, by simp [step, hp, hfree hp]⟩
  | locked => exact ⟨.lookup u (s.memo (s.key u)), trivial, by simp [step, hp]⟩
  | missed => exact ⟨.exec u, trivial, by simp [step, hp]⟩
  | executed => exact ⟨.memoize u, trivial, by simp [step, hp]⟩
  | stored => exact ⟨.rel u, trivial, by simp [step, hp]⟩

/-! ### why the cache's methods must be atomic (the situation before fix F9)

    `put` without a lock is (at least) two steps: make room for the entry (evict the key's old entry, pop
    least-recently-used entries), then insert it and add its size to the usage counter. If two threads putting the same
    memento-only entry both finish the first step before either does the second, the counter ends at twice what the one
    resident entry accounts for and the key sits twice in the recency queue: the invariant of C06 is lost. This is the
    schedule `[(0,8),(1,∞),(0,∞)]` found on the real class by `c09.py` family B. -/
def putRoom (s : Cache.State) (k : Cache.Key) (size : Nat) : Cache.State :=
  let s := Cache.evict s k
  Cache.makeRoom size s.lru.length s

def putInsert (s : Cache.State) (k : Cache.Key) (mem v size : Nat) (hasResult : Bool) : Cache.State :=
  let e : Cache.Entry := { size, mem, val := v, hasValue := hasResult }
  Cache.touchStamp { s with cache := s.cache ++ [(k, e)], lru := s.lru ++ [k], usage := s.usage + size } k

theorem putCore_eq_halves (s : Cache.State) (k : Cache.Key) (mem v size : Nat) (hr : Bool) :
    Cache.putCore s k mem v size hr = putInsert (putRoom s k size) k mem v size hr := rfl

/-- interleaved as room(A), room(B), insert(A), insert(B) the accounts are wrong -/
theorem unsynchronised_put_breaks_accounting :
    let k : Cache.Key := ⟨1, 1⟩
    let s0 := Cache.init 4096
    let s := putInsert (putInsert (putRoom (putRoom s0 k 16) k 16) k 1 0 16 false) k 2 0 16 false
    s.usage = 32 ∧ (Cache.lookup s.cache k).map (·.size) = some 16 ∧ s.lru = [k, k] ∧ ¬ s.lru.Nodup ∧
      ¬ (Cache.keys s.cache).Nodup := by
  decide +kernel

/-! ### non-vacuity: two threads race for the same call on a cold store (one executes, the other is served after waiting
    for the mutex), a third is served by the pre-check afterwards -/
def exTrace : List Ev :=
  [.start 1 7, .start 2 7, .pre 1 false, .pre 2 false, .acq 2, .lookup 2 false, .exec 2,
   .cacheOp 2 (.put ⟨7, 0⟩ 1 1 16 false false none), .memoize 2, .rel 2, .acq 1, .lookup 1 true, .rel 1,
   .start 3 7, .pre 3 true]

example : ∃ s, run (init (fun _ => false) 100) exTrace = some s ∧ s.execs 7 = 1 ∧ s.completed 7 = true ∧
    s.pc 1 = .idle ∧ s.pc 2 = .idle ∧ s.pc 3 = .idle := ⟨_, rfl, by decide⟩
/-- a second execution is not an accepted continuation -/
example : run (init (fun _ => false) 100) [.start 1 7, .pre 1 false, .acq 1, .lookup 1 false, .exec 1, .memoize 1, .rel 1,
    .start 2 7, .pre 2 false] = none := by decide +kernel

end Memento.Conc
