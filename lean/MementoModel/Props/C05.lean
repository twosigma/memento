import MementoModel.Lemmas.StoreLemmas

/-!
# C05 — every storage backend behaves like one dictionary of memoized calls

Refinement of the abstract dictionary `Spec` by the memory backend, the filesystem backend and the
filesystem backend with a write-through memory cache of any budget (`FsBackend` with
`cache = some _`), for every operation and — by induction — every history.
-/
namespace Memento.Store

/-- reads return the last value written -/
theorem spec_read_last_write (sp : Spec) (fn arg ov mem val sz wr) :
    let sp' := (Spec.step sp (.memoize fn arg ov mem val sz wr)).1
    (Spec.step sp' (.lookread fn arg)).2 = .val (some val) ∧
    (Spec.step sp' (.getm [(fn, arg)])).2 = .mems [some mem] := by
  simp [Spec.step, alookup_aset]

/-- forgetting removes exactly its scope: the call is gone, every other call is untouched -/
theorem spec_forget_call_scope (sp : Spec) (fn arg fn' arg') :
    let sp' := (Spec.step sp (.fcall fn arg)).1
    (Spec.step sp' (.lookread fn arg)).2 = .val none ∧
    ((fn', arg') ≠ (fn, arg) → (Spec.step sp' (.lookread fn' arg')).2 = (Spec.step sp (.lookread fn' arg')).2) := by
  simp only [Spec.step, alookup_adel]
  refine ⟨by simp, ?_⟩
  intro h; simp [h]

theorem spec_forget_function_scope (sp : Spec) (fn fn' arg') :
    let sp' := (Spec.step sp (.ffn fn)).1
    (Spec.step sp' (.lookread fn arg')).2 = .val none ∧
    (fn' ≠ fn → (Spec.step sp' (.lookread fn' arg')).2 = (Spec.step sp (.lookread fn' arg')).2) := by
  simp only [Spec.step]
  refine ⟨?_, ?_⟩
  · rw [alookup_filter sp.entries (fun k => !(k.1 == fn))]; simp
  · intro h
    rw [alookup_filter sp.entries (fun k => !(k.1 == fn))]; simp [h]

/-- nothing forgotten ever reappears: absent stays absent under every op except a memoize of it -/
theorem spec_no_resurrection (sp : Spec) (fn arg : Nat) (op : Op)
    (habs : alookup sp.entries (fn, arg) = none)
    (hop : ∀ ov mem val sz wr, op ≠ .memoize fn arg ov mem val sz wr) :
    alookup (Spec.step sp op).1.entries (fn, arg) = none := by
  cases op with
  | memoize f a ov mem val sz wr =>
    have : (fn, arg) ≠ (f, a) := by
      intro e; cases e; exact hop ov mem val sz wr rfl
    exact (alookup_aset ..).trans ((if_neg this).trans habs)
  | fcall f a => exact (alookup_adel ..).trans (by rw [habs, ite_self])
  | ffn f => exact (alookup_filter sp.entries (fun k => !(k.1 == f)) _).trans (by rw [habs, ite_self])
  | fall => rfl
  | _ => exact habs

theorem mem_init_inv : MemInv (MemBackend.init false) :=
  ⟨by simp [MemBackend.init], by simp [MemBackend.init], rfl⟩

/-- one step of the memory backend = one step of the dictionary (same answer, same abstract state);
    `hadm` is not used by the proof -/
theorem membackend_refines_dict (s : MemBackend) (op : Op) (h : MemInv s) (hadm : MemBackend.admissible s op) :
    (MemBackend.step s op).2 = (Spec.step (MemBackend.abs s) op).2 ∧
    MemBackend.abs (MemBackend.step s op).1 = (Spec.step (MemBackend.abs s) op).1 ∧
    MemInv (MemBackend.step s op).1 := by
  open MemBackend in
  -- with the flag a literal `false`, both steps evaluate on every operation
  obtain ⟨ms, rs, md, ro⟩ := s
  obtain rfl : ro = false := h.writable
  cases op with
  | memoize fn arg ov mem val sz wr =>
    exact ⟨rfl, congrArg (Spec.mk · md) (map_absEntry_aset ms rs (fn, arg) mem val), h.write (fn, arg) mem val _⟩
  | getm ks =>
    refine ⟨congrArg Out.mems (List.map_congr_left fun k _ => ?_), rfl, h⟩
    show alookup ms k = (alookup (ms.map (absEntry rs)) k).map (·.mem)
    rw [alookup_abs_entries]
    cases alookup ms k <;> rfl
  | lookread fn arg =>
    simp only [MemBackend.step, Spec.step, abs_eq, alookup_abs_entries]
    cases hm : alookup ms (fn, arg) with
    | none => exact ⟨rfl, rfl, h⟩
    | some m =>
      refine ⟨?_, rfl, h⟩
      have := h.hasResult _ (alookup_mem hm)
      simp only at this ⊢
      cases hr : alookup rs (fn, arg) with
      | none => simp [hr] at this
      | some v => simp
  | ismem fn arg =>
    refine ⟨congrArg Out.bool ?_, rfl, h⟩
    show _ = (alookup (ms.map (absEntry rs)) (fn, arg)).isSome
    rw [alookup_abs_entries, Option.isSome_map]
  | fcall fn arg =>
    exact ⟨rfl, congrArg (Spec.mk · _) (map_absEntry_filter ms rs (nekey (fn, arg))), h.filter (nekey (fn, arg)) _⟩
  | ffn fn =>
    exact ⟨rfl, congrArg (Spec.mk · _) (map_absEntry_filter ms rs (fun k => !(k.1 == fn))),
      h.filter (fun k => !(k.1 == fn)) _⟩
  | fall => exact ⟨rfl, rfl, List.nodup_nil, fun _ hp => (nomatch hp), rfl⟩
  | lsf =>
    simp only [MemBackend.step, Spec.step, true_and]
    refine ⟨?_, h⟩
    simp [abs_eq, absEntry, List.map_map, Function.comp_def]
  | lsm fn =>
    simp only [MemBackend.step, Spec.step, true_and]
    refine ⟨?_, h⟩
    rw [abs_eq]
    simp only
    rw [filter_map_absEntry (fun k => k.1 == fn)]
    simp [absEntry, List.map_map, Function.comp_def]
  | wmeta fn arg k b => exact ⟨rfl, rfl, h.nodup, h.hasResult, rfl⟩
  | rmeta fn arg k => exact ⟨rfl, rfl, h⟩
  | hold b => exact ⟨rfl, rfl, h⟩
  | drop b => exact ⟨rfl, rfl, h⟩

theorem fs_init_wf (separate : Bool) (budget : Option Nat) : WF (FsBackend.init separate budget false) := by
  refine ⟨DSWF.empty, rfl, ?_, ?_, ?_⟩
  · intro m mi hm; cases hm
  · intro fn arg fn' arg' m ck ck' hr; cases hr
  · intro c hc
    cases budget with
    | none => cases hc
    | some b =>
      simp only [FsBackend.init, Option.map_some, Option.some.injEq] at hc
      subst hc
      exact ⟨fun k e hke => (by cases hke), fun k v hkv => (by cases hkv), Cache.inv_init b⟩

/-- one step of the filesystem backend (any cache budget, or none) = one step of the dictionary -/
theorem fsbackend_refines_dict (s : FsBackend) (op : Op) (h : WF s) (hadm : FsBackend.admissible s op) :
    (FsBackend.step s op).2 = (Spec.step (FsBackend.abs s) op).2 ∧
    FsBackend.abs (FsBackend.step s op).1 = (Spec.step (FsBackend.abs s) op).1 ∧
    WF (FsBackend.step s op).1 :=
  fs_refines h op hadm

def runFs (s : FsBackend) : List Op → FsBackend × List Out
  | [] => (s, [])
  | op :: ops => let (s1, o) := FsBackend.step s op; let (s2, os) := runFs s1 ops; (s2, o :: os)

def runSpec (sp : Spec) : List Op → Spec × List Out
  | [] => (sp, [])
  | op :: ops => let (s1, o) := Spec.step sp op; let (s2, os) := runSpec s1 ops; (s2, o :: os)

def runMem (s : MemBackend) : List Op → MemBackend × List Out
  | [] => (s, [])
  | op :: ops => let (s1, o) := MemBackend.step s op; let (s2, os) := runMem s1 ops; (s2, o :: os)

theorem runFs_cons (s : FsBackend) (op : Op) (ops : List Op) :
    runFs s (op :: ops) =
      ((runFs (FsBackend.step s op).1 ops).1, (FsBackend.step s op).2 :: (runFs (FsBackend.step s op).1 ops).2) := rfl

theorem runSpec_cons (sp : Spec) (op : Op) (ops : List Op) :
    runSpec sp (op :: ops) =
      ((runSpec (Spec.step sp op).1 ops).1, (Spec.step sp op).2 :: (runSpec (Spec.step sp op).1 ops).2) := rfl

theorem runMem_cons (s : MemBackend) (op : Op) (ops : List Op) :
    runMem s (op :: ops) =
      ((runMem (MemBackend.step s op).1 ops).1, (MemBackend.step s op).2 :: (runMem (MemBackend.step s op).1 ops).2) := rfl

def AdmissibleFs : FsBackend → List Op → Prop
  | _, [] => True
  | s, op :: ops => FsBackend.admissible s op ∧ AdmissibleFs (FsBackend.step s op).1 ops

def AdmissibleMem : MemBackend → List Op → Prop
  | _, [] => True
  | s, op :: ops => MemBackend.admissible s op ∧ AdmissibleMem (MemBackend.step s op).1 ops

/-- along every admissible history from any well-formed state: the answers are the dictionary's, the
    abstraction commutes, the invariant is kept -/
theorem runFs_refines : ∀ (ops : List Op) (s : FsBackend), WF s → AdmissibleFs s ops →
    (runFs s ops).2 = (runSpec (FsBackend.abs s) ops).2 ∧
    FsBackend.abs (runFs s ops).1 = (runSpec (FsBackend.abs s) ops).1 ∧
    WF (runFs s ops).1
  | [], _, h, _ => ⟨rfl, rfl, h⟩
  | op :: ops, s, h, hadm => by
    obtain ⟨h1, h2, h3⟩ := fsbackend_refines_dict s op h hadm.1
    obtain ⟨i1, i2, i3⟩ := runFs_refines ops _ h3 hadm.2
    rw [runFs_cons, runSpec_cons]
    exact ⟨by rw [i1, h1, h2], by rw [i2, h2], i3⟩

/-- **every history**: the filesystem backend (shared or separate metadata root, no cache or a cache
    of any budget) gives exactly the answers of the dictionary -/
theorem fs_history_refines_dict (separate : Bool) (budget : Option Nat) (ops : List Op)
    (hadm : AdmissibleFs (FsBackend.init separate budget false) ops) :
    (runFs (FsBackend.init separate budget false) ops).2 = (runSpec Spec.empty ops).2 := by
  exact (runFs_refines ops _ (fs_init_wf separate budget) hadm).1

theorem runMem_refines : ∀ (ops : List Op) (s : MemBackend), MemInv s → AdmissibleMem s ops →
    (runMem s ops).2 = (runSpec (MemBackend.abs s) ops).2
  | [], _, _, _ => rfl
  | op :: ops, s, hinv, hadm => by
    obtain ⟨h1, h2, h3⟩ := membackend_refines_dict s op hinv hadm.1
    have := runMem_refines ops _ h3 hadm.2
    rw [runMem_cons, runSpec_cons, this, h1, h2]

/-- **every history**: the memory backend gives exactly the answers of the dictionary -/
theorem mem_history_refines_dict (ops : List Op) (hadm : AdmissibleMem (MemBackend.init false) ops) :
    (runMem (MemBackend.init false) ops).2 = (runSpec Spec.empty ops).2 :=
  runMem_refines ops _ mem_init_inv hadm

private def demo : List Op :=
  [.memoize 1 1 none 10 (some 7) 40 false, .memoize 2 1 (some 1) 11 (some 8) 40 false, .wmeta 1 1 1 5,
   .lookread 1 1, .ffn 1, .lookread 1 1, .lsf, .memoize 2 1 (some 1) 12 none 16 false, .lookread 2 1]

example : (runFs (FsBackend.init false (some 100) false) demo).2 = (runSpec Spec.empty demo).2 := by decide
example : (runMem (MemBackend.init false) demo).2 = (runSpec Spec.empty demo).2 := by decide

/-- a decidable sufficient condition for `AdmissibleFs` -/
def admissibleFsB : FsBackend → List Op → Bool
  | _, [] => true
  | s, op :: ops => FsBackend.admissibleB s op && admissibleFsB (FsBackend.step s op).1 ops

theorem admissibleFs_of_B : ∀ (ops : List Op) (s : FsBackend), admissibleFsB s ops = true → AdmissibleFs s ops
  | [], _, _ => trivial
  | op :: ops, s, h => by
    simp only [admissibleFsB, Bool.and_eq_true] at h
    exact ⟨FsBackend.admissible_of_B h.1, admissibleFs_of_B ops _ h.2⟩

/-- the hypothesis of `fs_history_refines_dict` is satisfiable by a history exercising the cache,
    overrides, metadata and forgetting -/
example : AdmissibleFs (FsBackend.init false (some 100) false) demo := admissibleFs_of_B _ _ (by decide)
example : AdmissibleFs (FsBackend.init true none false) demo := admissibleFs_of_B _ _ (by decide)

/-- why `FsBackend.admissible` bounds the byte-string identity of a memoized value by `999999`:
    the cache model encodes object identities as `bytes id + 1 + 10^6 * generation` and decodes
    with `% 10^6`, so with a cache the (otherwise admissible) history below reads back bytes `0`
    where the dictionary says `999999`.  An artefact of the identity encoding of the model
    (`FsBackend.objId` / `objBytes`), not of the backend. -/
private def cexBigBytes : List Op := [.memoize 1 1 none 10 (some 999999) 40 false, .lookread 1 1]

example : (runFs (FsBackend.init false (some 100) false) cexBigBytes).2 = [.unit, .val (some (some 0))] ∧
    (runSpec Spec.empty cexBigBytes).2 = [.unit, .val (some (some 999999))] := by decide

/-! ### metadata stored with the data (known finding K6, fix F30)

`write_metadata(call, key, value, store_with_content_key = ck)` files the value next to the *data object* `ck` (file name: the
object's name, `.meta.`, the key) and a marker in the call's own metadata; `read_metadata` follows the marker to the object of the
call's current memento. The small model below keeps exactly that: a table keyed by (data object, key). `objOf` says which data
object each call's result lives in — results that serialize to the same bytes share one (C07). -/

abbrev Call := Nat
abbrev Obj := Nat
abbrev WdKey := Nat
abbrev WithData := List ((Obj × WdKey) × Nat)

def wdWrite (objOf : Call → Obj) (t : WithData) (c : Call) (k : WdKey) (v : Nat) : WithData :=
  ((objOf c, k), v) :: t.filter (fun e => !(e.1 == (objOf c, k)))

def wdRead (objOf : Call → Obj) (t : WithData) (c : Call) (k : WdKey) : Option Nat :=
  (t.find? (fun e => e.1 == (objOf c, k))).map (·.2)

/-- `alookup`/`aset` with the `==` of pairs for that of `DecidableEq`: not `rfl` -/
theorem wdRead_eq (objOf : Call → Obj) (t : WithData) (c : Call) (k : WdKey) :
    wdRead objOf t c k = alookup t (objOf c, k) := by
  unfold wdRead alookup
  congr 2
  funext e
  rw [Bool.eq_iff_iff]
  simp

theorem wdWrite_eq (objOf : Call → Obj) (t : WithData) (c : Call) (k : WdKey) (v : Nat) :
    wdWrite objOf t c k v = aset t (objOf c, k) v := by
  unfold wdWrite aset
  congr 2
  funext e
  rw [Bool.eq_iff_iff]
  simp

theorem wdRead_write_same (objOf : Call → Obj) (t : WithData) (c : Call) (k : WdKey) (v : Nat) :
    wdRead objOf (wdWrite objOf t c k v) c k = some v := by
  rw [wdRead_eq, wdWrite_eq, alookup_aset, if_pos rfl]

/-- **partial** (what holds): a write for another call, or under another key, leaves a read untouched — provided the two calls'
    results do not share a data object (or the keys differ) -/
theorem wdRead_write_other_partial (objOf : Call → Obj) (t : WithData) (c c' : Call) (k k' : WdKey) (v : Nat)
    (h : objOf c ≠ objOf c' ∨ k ≠ k') :
    wdRead objOf (wdWrite objOf t c' k' v) c k = wdRead objOf t c k := by
  rw [wdRead_eq, wdWrite_eq, alookup_aset, wdRead_eq, if_neg]
  intro e
  injection e with e1 e2
  exact h.elim (fun h => h e1) (fun h => h e2)

/-- **K6** (the full statement — per call, last value written — is false): two calls whose results share a data object share
    the metadata stored with it -/
example : wdRead (fun _ => 7) (wdWrite (fun _ => 7) (wdWrite (fun _ => 7) [] 1 0 100) 2 0 200) 1 0 = some 200 := by decide

end Memento.Store
