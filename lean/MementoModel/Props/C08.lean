import MementoModel.Lemmas.StoreLemmas
import MementoModel.Model.Crash
import MementoModel.Lemmas.CrashInv
import MementoModel.Lemmas.CrashLemmas

/-!
# C08 — a crash or I/O fault at any point of a write never poisons the filesystem store

Over the primitive-level model `Model/Crash.lean`: `variant d ps n torn` is the store after the
first `n` primitives of a `memoize`, optionally followed by a torn (half-written) execution of the
next one. This covers: crash before any primitive, crash in the middle of any file write, and an
I/O error raised at any primitive or in the middle of any file write (the exception aborts the rest
of `memoize`; the runner swallows it). The statements quantify over **every** store satisfying the
crash-closed invariant `CrashWF`, every request, every `n` and both values of `torn` — so they apply
to any number of successive crashes.
-/
namespace Memento.Store

/-! `crashWF_iff`, `sound_iff` and `correct_iff` write out the definitions of `Lemmas/CrashInv.lean` that the
statements of this file use.

`CrashWF d` — the invariant that survives crashes (weaker than `DSWF`: orphan and torn version files
may exist, a content link may dangle). -/

theorem crashWF_iff (d : DS) : CrashWF d ↔
    (∀ p ∈ d.objs, p.1.2 < d.next) ∧
    (∀ p ∈ d.links, p.2 < d.next) ∧
    -- a memento link always names a complete memento document whose content key (if any) names a
    -- complete blob in the data area
    (∀ fn arg v, alookup d.links (.memento fn arg) = some v →
      ∃ m ck, alookup d.objs (.memento fn arg, v) = some (.mrec m ck) ∧
        (ck = none ∨ ∃ k ver b, ck = some (k, ver) ∧ k.isMetaArea = false ∧ alookup d.objs (k, ver) = some (.blob b))) ∧
    -- the version file a content link names, if it exists, is a complete blob holding the bytes of its key
    (∀ h v c, alookup d.links (.content h) = some v → alookup d.objs (.content h, v) = some c → c = .blob h) :=
  ⟨fun h => ⟨h.objFresh, h.linkFresh, h.mementoOk, h.contentOk⟩, fun ⟨a, b, c, e⟩ => ⟨a, b, c, e⟩⟩

/-- `Sound F d` written out, where `F : Sem` (`Fn → Arg → Option Bytes`) says what the functions compute:
    every result the store would serve is the right one -/
theorem sound_iff (F : Sem) (d : DS) :
    Sound F d ↔ ∀ fn arg v, callOutcome d fn arg = .served v → v = F fn arg := Iff.rfl

theorem correct_iff (F : Sem) (r : Request) : r.correct F ↔ r.blobs.getLast? = F r.fn r.arg := Iff.rfl

/-! **Why `contentOk` only constrains the version file when it exists.**  With the stronger field
```
  contentOk : ∀ h v, alookup d.links (.content h) = some v → alookup d.objs (.content h, v) = some (.blob h)
```
("a content link always names a complete blob") `crashwf_of_dswf` is *false*: `DSWF` does not forbid a content
link whose version file is missing (it only says that content *objects* are linked, `DSWF.contentLinked`).
Counterexample below.  A dangling content link is harmless — `exists_nonversioned` tests the link *and* the
file, so dedup never trusts it. -/

private def danglingContent : DS := ⟨[], [(.content 5, 0)], 1⟩

example : DSWF danglingContent ∧
    ¬ (∀ h v, alookup danglingContent.links (.content h) = some v →
        alookup danglingContent.objs (.content h, v) = some (.blob h)) := by
  refine ⟨?_, ?_⟩
  · refine ⟨?_, ?_, ?_, ?_, ?_, ?_, ?_, ?_, ?_, ?_⟩ <;>
      simp [danglingContent, alookup_cons, alookup_nil]
  · intro hall
    cases hall 5 0 rfl

theorem crashwf_of_dswf (d : DS) (h : DSWF d) : CrashWF d :=
  ⟨h.objFresh, h.linkFresh, h.mementoOk, fun hh v c _ ho => h.contentOk hh v c ho⟩

theorem crashwf_empty : CrashWF DS.empty := crashwf_of_dswf _ DSWF.empty

/-- **closure**: every variant of a memoize on a crash-well-formed store is crash-well-formed -/
theorem variant_crashwf (d : DS) (r : Request) (n : Nat) (torn : Bool) (h : CrashWF d) :
    CrashWF (variant d (memoizePrims d r) n torn) :=
  (variant_inv h (memoizePrims_allOk h r) n torn).1

/-- "raises nothing": on a crash-well-formed store no call ever sees a torn document -/
theorem crashwf_never_raises (d : DS) (h : CrashWF d) (fn : Fn) (arg : Arg) :
    callOutcome d fn arg ≠ .raised := by
  rw [h.mOk.callOutcome]
  split <;> exact fun e => nomatch e

/-- "still returns the correct value": soundness is preserved by every variant -/
theorem variant_sound (F : Sem) (d : DS) (r : Request) (n : Nat) (torn : Bool)
    (h : CrashWF d) (hs : Sound F d) (hr : r.correct F) :
    Sound F (variant d (memoizePrims d r) n torn) := by
  intro fn arg v hv
  rw [variant_callOutcome h] at hv
  split at hv
  · rename_i hc
    cases hc.1; cases hv
    exact hr
  · exact hs fn arg v hv

/-- frame: a variant of memoizing one call does not change what any *other* call sees -/
theorem variant_frame (d : DS) (r : Request) (n : Nat) (torn : Bool) (h : CrashWF d)
    (fn : Fn) (arg : Arg) (hne : (fn, arg) ≠ (r.fn, r.arg)) :
    callOutcome (variant d (memoizePrims d r) n torn) fn arg = callOutcome d fn arg := by
  rw [variant_callOutcome h, if_neg (fun hc => hne hc.1)]

/-- recovery: once a later write completes, the call is served from the store — whatever
    damage earlier crashes left behind -/
theorem complete_write_recovers (d : DS) (r : Request) (h : CrashWF d) :
    let ps := memoizePrims d r
    callOutcome (variant d ps ps.length false) r.fn r.arg = .served r.blobs.getLast? := by
  intro ps
  rw [variant_callOutcome h, if_pos ⟨rfl, Nat.le_refl _⟩]

/-- the store after any number of successive crashed / faulted memoize attempts -/
def crashes (d : DS) : List (Request × Nat × Bool) → DS
  | [] => d
  | (r, n, torn) :: rest => crashes (variant d (memoizePrims d r) n torn) rest

theorem crashes_inv (F : Sem) : ∀ (hist : List (Request × Nat × Bool)) (d : DS), CrashWF d → Sound F d →
    (∀ x ∈ hist, x.1.correct F) → CrashWF (crashes d hist) ∧ Sound F (crashes d hist)
  | [], _, h, hs, _ => ⟨h, hs⟩
  | (r, n, torn) :: hist, d, h, hs, hr =>
    crashes_inv F hist _ (variant_crashwf d r n torn h)
      (variant_sound F d r n torn h hs (hr _ List.mem_cons_self))
      (fun y hy => hr y (List.mem_cons_of_mem _ hy))

/-- C08 from the empty store: after any number of successive crashed, faulted or complete writes of correct results,
    no call raises and every value served is the right one -/
theorem crash_safe (F : Sem) (hist : List (Request × Nat × Bool))
    (hr : ∀ x ∈ hist, x.1.correct F) (fn : Fn) (arg : Arg) :
    let d := crashes DS.empty hist
    callOutcome d fn arg ≠ .raised ∧ (∀ v, callOutcome d fn arg = .served v → v = F fn arg) := by
  intro d
  obtain ⟨h1, h2⟩ := crashes_inv F hist DS.empty crashwf_empty (by intro fn arg v hv; cases hv) hr
  exact ⟨crashwf_never_raises _ h1 fn arg, h2 fn arg⟩

set_option linter.unusedVariables false in
/-- tie to the atomic model of C05: the complete primitive sequence of a single-blob request leaves the objects
    and links that `FsBackend.step … memoize` leaves. What a step does to the store does not depend on the
    cache (`FsBackend.step_ds`): the proof does not use `hc`. -/
theorem memoizePrims_complete_eq_step (s : FsBackend) (h : WF s) (hc : s.cache = none)
    (fn arg ov mem : Nat) (val : Option Bytes) (sz : Nat) (wr : Bool) :
    let r : Request := ⟨fn, arg, ov, mem, val.toList⟩
    let d' := variant s.ds (memoizePrims s.ds r) (memoizePrims s.ds r).length false
    d'.objs = (FsBackend.step s (.memoize fn arg ov mem val sz wr)).1.ds.objs ∧
    d'.links = (FsBackend.step s (.memoize fn arg ov mem val sz wr)).1.ds.links := by
  intro r d'
  have hv : d' = (memoizePrims s.ds r).foldl Prim.apply s.ds := variant_of_length_le (Nat.le_refl _)
  rw [hv, FsBackend.step_ds, h.writable, memoizePrims_foldl_eq s.ds s.separate fn arg ov mem val sz wr]
  exact ⟨rfl, rfl⟩

/-! ## A failed write and the write-through cache (fix F26)

`StorageBackendBase.memoize` puts the result in the memory cache first and then writes. When the write does not go through
(an I/O error after the first `n` primitives, possibly in the middle of a file), the entry is taken back: otherwise the cache
— for a result larger than its budget that the caller still holds, its weak reference alone — would go on reporting the call
as memoized, `memento_run_local` would skip the write on every later call and the body would run again and again. -/

/-- the backend after a `memoize` whose write failed after `n` primitives (`torn`: in the middle of the next file) -/
def FsBackend.memoizeFaulted (s : FsBackend) (fn arg : Nat) (ov : Option Nat) (mem : Nat) (val : Option Bytes) (size : Nat)
    (wr : Bool) (n : Nat) (torn : Bool) : FsBackend :=
  let s1 := FsBackend.cachePut s fn arg mem val size wr true
  let s2 := FsBackend.mapCache s1 (fun c => Cache.forgetCall c (FsBackend.ckey fn arg))
  let r : Request := ⟨fn, arg, ov, mem, val.toList⟩
  { s2 with ds := variant s.ds (memoizePrims s.ds r) n torn }

theorem FsBackend.memoizeFaulted_cache (s : FsBackend) (fn arg : Nat) (ov : Option Nat) (mem : Nat) (val : Option Bytes)
    (size : Nat) (wr : Bool) (n : Nat) (torn : Bool) :
    (FsBackend.memoizeFaulted s fn arg ov mem val size wr n torn).cache =
      (FsBackend.cachePut s fn arg mem val size wr true).cache.map
        (fun c => Cache.prune (Cache.forgetCall c (FsBackend.ckey fn arg))) := rfl

/-- **after a failed write the cache claims nothing about the call**: no entry and no weak reference for it, whatever was
    resident before, whatever the result's size and kind, at whichever primitive the write failed -/
theorem faulted_memoize_leaves_no_claim (s : FsBackend) (fn arg : Nat) (ov : Option Nat) (mem : Nat) (val : Option Bytes)
    (size : Nat) (wr : Bool) (n : Nat) (torn : Bool) :
    match (FsBackend.memoizeFaulted s fn arg ov mem val size wr n torn).cache with
    | none => True
    | some c => Cache.hasKey c.cache (FsBackend.ckey fn arg) = false ∧ Cache.refLookup c.refs (FsBackend.ckey fn arg) = none := by
  rw [FsBackend.memoizeFaulted_cache]
  cases (FsBackend.cachePut s fn arg mem val size wr true).cache with
  | none => trivial
  | some c => exact Cache.forgetCall_no_claim c _

/-- after a failed write, whether the call is memoized is again what the store says, and the runner writes again as soon
    as it can -/
theorem faulted_memoize_asks_the_store (s : FsBackend) (fn arg : Nat) (ov : Option Nat) (mem : Nat) (val : Option Bytes)
    (size : Nat) (wr : Bool) (n : Nat) (torn : Bool) :
    let s' := FsBackend.memoizeFaulted s fn arg ov mem val size wr n torn
    (FsBackend.isMemoized s' fn arg).2 = s'.ds.existsNV (.memento fn arg) := by
  intro s'
  have h := faulted_memoize_leaves_no_claim s fn arg ov mem val size wr n torn
  unfold FsBackend.isMemoized
  cases hc : s'.cache with
  | none => rfl
  | some c =>
    rw [show (FsBackend.memoizeFaulted s fn arg ov mem val size wr n torn).cache = some c from hc] at h
    simp only [Cache.isMemoized, h.1, h.2, Bool.false_eq_true, if_false, Option.isSome_none]

/-- the code before the fix: the write-through entry stays -/
def FsBackend.memoizeFaultedUnfixed (s : FsBackend) (fn arg : Nat) (ov : Option Nat) (mem : Nat) (val : Option Bytes) (size : Nat)
    (wr : Bool) (n : Nat) (torn : Bool) : FsBackend :=
  { FsBackend.cachePut s fn arg mem val size wr true with
    ds := variant s.ds (memoizePrims s.ds ⟨fn, arg, ov, mem, val.toList⟩) n torn }

/-! witness of F26: a 10-byte cache, a weak-referenceable result of 400 bytes that the caller holds, the write fails at the
    first primitive: without taking the entry back the backend says "memoized" although the store has nothing; with it the
    answer is the store's -/
private def heldS : FsBackend := (FsBackend.step (FsBackend.init false (some 10)) (.hold 3)).1
example : (FsBackend.isMemoized (FsBackend.memoizeFaultedUnfixed heldS 1 1 none 7 (some 3) 400 true 0 false) 1 1).2 = true ∧
    (FsBackend.memoizeFaultedUnfixed heldS 1 1 none 7 (some 3) 400 true 0 false).ds.existsNV (.memento 1 1) = false := by decide +kernel
example : (FsBackend.isMemoized (FsBackend.memoizeFaulted heldS 1 1 none 7 (some 3) 400 true 0 false) 1 1).2 = false := by decide +kernel

/-! non-vacuity: a crash in the middle of the data file, then in the middle of the memento file (primitives 0 and 3
    of 6), then a complete write -/
private def req : Request := ⟨1, 1, none, 10, [7]⟩
private def F0 : Sem := fun _ _ => some 7
example : callOutcome (crashes DS.empty [(req, 0, true), (req, 3, true)]) 1 1 = .computed := by decide
example : callOutcome (crashes DS.empty [(req, 0, true), (req, 3, true), (req, 6, false)]) 1 1 = .served (some 7) := by decide
example : (memoizePrims DS.empty req).length = 6 := by decide

end Memento.Store
