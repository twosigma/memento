import MementoModel.Lemmas.VersionCacheLemmas
import MementoModel.Props.C03

/-!
# C13 — the in-process version cache is coherent with a from-scratch computation

Model: `Model/VersionCache.lean` — `_update_dependencies` statement by statement (explicit version
short-cut, cache lookup at the current generation, `did_change` scan of the instance's own recorded
rules, generation bump, recompute, cache write), objects with identity, modifier clones (which copy
version and rules) and unregistered wrappers (no version, no rules). Events: (re)define a memento
function (registration bumps the generation), (re)define a plain function, rebind a variable or define a
previously undefined symbol (a name without binding becomes bound), replace a memento function by a
plain one and back (define under the same name), define a plain function of another package (`defForeign`), bind a name to
what another name is bound to (`alias`), create a clone / a wrapper, ask for a version, lock or unlock the cluster (`lock`). In-place
mutation of a tracked container is a rebinding to the new value at this level (values are compared by
their serialisation).

`effectiveVersion H (progOf s.sym) id f` is what a fresh process computes for the resulting program
(`Model/Version.lean`; C03: independent of definition order and set enumeration order).

The cluster lock is modelled (`St.locked`, event `lock b`): the property excludes the answers given *while* the cluster is
locked, and only those — `query_eq_fresh` holds at every position where the cluster is not locked, whatever was edited, asked or
refused during earlier locked periods (`unlock_restores_coherence`); while it is locked an instance that has a version repeats it
and touches nothing (`locked_query_frozen`), an instance that has none computes the fresh one (`query_eq_fresh`, second case),
and a registration is refused without binding anything (`locked_registration_refused`).
Instances whose function object has been replaced since they were made are not part of "the resulting program" (`live`).
Every definition the events create gets a hash rule (`Def.trackable`) or is a plain function of another package
(`defForeign`): no rule is kept for such a function, but the symbol bound to it is watched (fix F27), so replacing a
memento function by a function of another package and back, or re-binding an alias of such a function, is inside the
model. Variables of unsupported types are outside the property's program class.
No assumption on the hash function `H` is needed.
-/
namespace Memento.VersionCache
open Memento.Version

/-- **coherence**: after any sequence of events (with version queries interleaved at any positions, on any
    instances), asking any live instance for its version succeeds and yields exactly the version computed
    from scratch for the resulting program -/
theorem query_eq_fresh (H : Ser → List Char) (evs : List Ev) (i : Nat) (inst : Inst) :
    let s := run H {} evs
    s.insts[i]? = some inst → live s inst → (s.locked = false ∨ inst.cver = none) →
    (step H s (.query i)).2 = some (effectiveVersion H (progOf s.sym) id inst.name) := by
  intro s hi hlive hul
  exact query_fresh (inv_run (inv_init H) evs) hi hlive hul

/-- only the answers given while the cluster is locked are excluded: once it is unlocked, every live instance reports the
    fresh version of the resulting program again — whatever was edited, re-bound, asked or refused while it was locked -/
theorem unlock_restores_coherence (H : Ser → List Char) (evs : List Ev) (i : Nat) (inst : Inst) :
    let s := run H {} (evs ++ [.lock false])
    s.insts[i]? = some inst → live s inst →
    (step H s (.query i)).2 = some (effectiveVersion H (progOf s.sym) id inst.name) := by
  intro s hi hlive
  refine query_fresh (inv_run (inv_init H) _) hi hlive (Or.inl ?_)
  show (run H {} (evs ++ [.lock false])).locked = false
  rw [run_append]
  rfl

/-- while the cluster is locked, an instance that already has a version repeats it, and the query changes nothing at all -/
theorem locked_query_frozen (H : Ser → List Char) (s : St) (i : Nat) (inst : Inst) (c : List Char) (b : Bound)
    (hl : s.locked = true) (hi : s.insts[i]? = some inst) (hc : inst.cver = some c)
    (hb : lookupB s.sym inst.name = some b) (hst : b.stamp = inst.stamp)
    (hx : ∀ e tok refs, b.d ≠ .memento (some e) tok refs) :
    query H s i = (s, some c) := by
  cases query_cases_of H hi hb hst with
  | explicit hd h => exact absurd hd (hx _ _ _)
  | frozen hne _ hc' h =>
    cases hc.symm.trans hc'
    exact h
  | recomputed g hne hnf h =>
    rw [hl, hc] at hnf
    cases hnf
  | unchanged hne hc' hnc hnw h =>
    cases hc.symm.trans hc'
    exact h
  | filled v hne hc' hs h =>
    rw [hc] at hc'
    cases hc'

/-- while the cluster is locked the registration of a memento function is refused: no name is bound, no instance appears (the
    generation and the cache entry of the name are touched, which no answer depends on: `query_eq_fresh` has no hypothesis on
    either) -/
theorem locked_registration_refused (H : Ser → List Char) (s : St) (hl : s.locked = true) (n : Name) (e) (tok : Tok) (refs : List Name) :
    let s' := (step H s (.defMemento n e tok refs)).1
    s'.sym = s.sym ∧ s'.insts = s.insts ∧ s'.locked = true := by
  simp [step, hl]

/-- the same for any enumeration order of reference sets and any definition order a fresh process may use (C03) -/
theorem query_eq_fresh_any_order (H : Ser → List Char) (evs : List Ev) (i : Nat) (inst : Inst)
    (P' : Prog) (ord' : List Name → List Name) (ho : OrdOK ord') :
    let s := run H {} evs
    (∀ n, lookup (progOf s.sym) n = lookup P' n) →
    s.insts[i]? = some inst → live s inst → (s.locked = false ∨ inst.cver = none) →
    (step H s (.query i)).2 = some (effectiveVersion H P' ord' inst.name) := by
  intro s hP hi hlive hul
  rw [← effectiveVersion_deterministic H (progOf s.sym) P' hP id ord' ordOK_id ho]
  exact query_fresh (inv_run (inv_init H) evs) hi hlive hul

/-- the criterion the cache relies on, stated on its own: if none of the rules an instance recorded reports a
    change and none of the symbols it watches without a rule (functions of other packages, fix F27) was re-bound, its
    recorded version is the fresh version (whatever happened to the generation counter) -/
theorem unchanged_rules_imply_fresh (H : Ser → List Char) (evs : List Ev) (inst : Inst) (c : List Char) :
    let s := run H {} evs
    inst ∈ s.insts → live s inst → inst.cver = some c → inst.snaps.any (didChange s.sym) = false →
    inst.watch.any (watchChanged s.sym) = false →
    version H (progOf s.sym) id inst.name = c := by
  intro s hmem hlive hc hnc hnw
  exact no_change_version (inv_run (inv_init H) evs) hmem hlive hc hnc hnw

/-- a query changes no binding: the program, and therefore every fresh version, is the same afterwards
    (so interleaving queries at every position cannot influence later answers) -/
theorem query_keeps_program (H : Ser → List Char) (s : St) (i : Nat) : (query H s i).1.sym = s.sym := by
  rcases query_cases H s i with ⟨h, _⟩ | ⟨inst, b, _, _, _, hq⟩
  · rw [h]
  cases hq with
  | explicit hd h => rw [h]
  | frozen hne hl hc h => rw [h]
  | recomputed g hne hnf h => rw [h]; rfl
  | unchanged hne hc hnc hnw h => rw [h]
  | filled v hne hc hs h => rw [h]

/-! ### non-vacuity: a variable beneath a plain helper is rebound between two queries; a clone made before
    the change and a wrapper made after it all report the fresh version -/
def exEvs : List Ev :=
  [.setVar 5 7, .defPlain 1 11 [5], .defMemento 0 none 10 [1], .query 0, .clone 0, .setVar 5 8, .wrapper 0]

example : (step exH (run exH {} exEvs) (.query 0)).2 =
    some (version exH [(0, .memento none 10 [1]), (1, .plain true 11 [5]), (5, .var (some 8))] id 0) := by
  decide +kernel
example : (step exH (run exH {} exEvs) (.query 1)).2 = (step exH (run exH {} exEvs) (.query 0)).2 := by decide +kernel
example : (step exH (run exH {} exEvs) (.query 2)).2 = (step exH (run exH {} exEvs) (.query 0)).2 := by decide +kernel

example : (step exH (run exH {} (exEvs.take 3)) (.query 0)).2 ≠ (step exH (run exH {} exEvs) (.query 0)).2 := by
  decide +kernel

/-! ### functions of other packages (the histories of finding K5, repaired by fix F27)

`m0` calls itself; its name is bound to a function of another package; then the identical `m0` is defined again (its
decorator runs while the name is still bound to the foreign function, so no rule is made for the recursive reference — the
watched symbol is what notices the re-binding); queries in between. -/
def exK5a : List Ev :=
  [.defMemento 0 none 10 [0], .defMemento 1 none 11 [0], .query 0, .query 1, .defForeign 0 77, .query 1,
   .defMemento 0 none 10 [0]]

example : (step exH (run exH {} exK5a) (.query 2)).2 =
    some (version exH [(0, .memento none 10 [0]), (1, .memento none 11 [0])] id 0) := by decide +kernel
example : (step exH (run exH {} exK5a) (.query 1)).2 =
    some (version exH [(0, .memento none 10 [0]), (1, .memento none 11 [0])] id 1) := by decide +kernel

example : (step exH (run exH {} (exK5a.take 5)) (.query 1)).2 ≠ (step exH (run exH {} exK5a) (.query 1)).2 := by
  decide +kernel

/-- K5b: `m3` (name 2) calls `a_m1` (name 5), an alias of `m1` (name 0); `m1 = a_m1 = <function of another package>`; queries;
    then `a_m1 = m2` (name 1): the watched symbol notices the re-binding -/
def exK5b : List Ev :=
  [.defMemento 0 none 10 [], .defMemento 1 none 11 [], .alias 5 0, .defMemento 2 none 12 [5], .query 2,
   .defForeign 0 77, .alias 5 0, .query 2, .alias 5 1]

example : (step exH (run exH {} exK5b) (.query 2)).2 =
    some (effectiveVersion exH (progOf (run exH {} exK5b).sym) id 2) := by decide +kernel
example : (step exH (run exH {} (exK5b.take 8)) (.query 2)).2 ≠ (step exH (run exH {} exK5b) (.query 2)).2 := by
  decide +kernel

/-! ### the cluster lock: `m1` (name 1) reads the variable 0 and is called by `m2` (name 2); both are asked, the cluster is locked, the
variable re-bound, a new `m1` refused; the locked answers are the old ones; after unlocking both report the fresh versions -/
def exLock : List Ev :=
  [.setVar 0 5, .defMemento 1 none 10 [0], .defMemento 2 none 11 [1], .query 0, .query 1, .lock true, .setVar 0 6,
   .defMemento 1 none 12 [0]]

example : (step exH (run exH {} exLock) (.query 0)).2 = (step exH (run exH {} (exLock.take 5)) (.query 0)).2 := by decide +kernel
example : (step exH (run exH {} exLock) (.query 1)).2 = (step exH (run exH {} (exLock.take 5)) (.query 1)).2 := by decide +kernel

example : (run exH {} exLock).insts.length = 2 ∧ (lookupB (run exH {} exLock).sym 1).map (·.d) = some (.memento none 10 [0]) := by
  decide +kernel

example : (step exH (run exH {} (exLock ++ [.lock false])) (.query 0)).2 =
    some (version exH [(0, .var (some 6)), (1, .memento none 10 [0]), (2, .memento none 11 [1])] id 1) := by decide +kernel
example : (step exH (run exH {} (exLock ++ [.lock false])) (.query 1)).2 =
    some (version exH [(0, .var (some 6)), (1, .memento none 10 [0]), (2, .memento none 11 [1])] id 2) := by decide +kernel
example : (step exH (run exH {} (exLock ++ [.lock false])) (.query 1)).2 ≠ (step exH (run exH {} exLock) (.query 1)).2 := by
  decide +kernel

/-- an instance made while locked (a wrapper: no version yet) computes the fresh version even though the cluster is locked -/
example : (step exH (run exH {} (exLock ++ [.wrapper 1])) (.query 2)).2 =
    some (version exH [(0, .var (some 6)), (1, .memento none 10 [0]), (2, .memento none 11 [1])] id 1) := by decide +kernel

end Memento.VersionCache
