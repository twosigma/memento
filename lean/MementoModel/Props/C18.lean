import MementoModel.Lemmas.ConfigLemmas

/-!
# C18 — declarative configuration is honoured, ordered, and reproducible from its dump

Model: `Model/Config.lean` (after fixes F8a `memory_cache_mb` read from the configuration, F8b `metadata_path`
emitted by `to_dict`). All statements are for every option map / argument combination / repository list.
Where paths, cache and read-only flag *act* is C05/C06/C19's business; here: which value each backend gets.
-/
namespace Memento.Config

/-- every option has the same effect given in the configuration as given as constructor argument -/
theorem config_eq_args (home : Str) (cfg : StorageCfg) :
    mkStorage home cfg {} = mkStorage home { type := cfg.type } (argsOf cfg) := by
  simp only [mkStorage, argsOf, orElse_eq_or, Option.none_or, Option.or_none]

/-- explicit arguments override the configuration, option by option (type 0 is the filesystem backend, the only one
    with paths and a cache) -/
theorem args_override (home : Str) (cfg : StorageCfg) (args : StorageArgs) (h : cfg.type = 0) :
    let s := mkStorage home cfg args
    (∀ p, args.path = some p → s.path = some p) ∧
    (∀ p, args.metaPath = some p → s.metaPath = some p) ∧
    (∀ c, args.cacheMb = some c → s.cache = truthy (some c)) ∧
    (∀ b, args.readOnly = some b → s.readOnly = b) := by
  simp only [mkStorage, h, if_true]
  refine ⟨fun p hp => ?_, fun p hp => ?_, fun c hc => ?_, fun b hb => ?_⟩
  · rw [hp]; rfl
  · rw [hp]; rfl
  · rw [hc]; rfl
  · rw [hb]; rfl

/-- options that are not given as arguments come from the configuration -/
theorem config_used_when_no_arg (home : Str) (cfg : StorageCfg) (h : cfg.type = 0) :
    let s := mkStorage home cfg {}
    (∀ p, cfg.path = some p → s.path = some p) ∧
    (∀ p, cfg.metaPath = some p → s.metaPath = some p) ∧
    (∀ c, cfg.cacheMb = some c → s.cache = truthy (some c)) ∧
    (∀ b, cfg.readonly = some b → s.readOnly = b) ∧
    (cfg.metaPath = none → s.metaPath = s.path) := by
  simp only [mkStorage, h, if_true, orElse_eq_or, Option.none_or]
  refine ⟨fun p hp => ?_, fun p hp => ?_, fun c hc => ?_, fun b hb => ?_, fun hm => ?_⟩
  · rw [hp]; rfl
  · rw [hp]; rfl
  · rw [hc]
  · rw [hb]; rfl
  · rw [hm]; rfl

/-- a backend rebuilt from its own dictionary form behaves the same -/
theorem storage_dump_roundtrip (home : Str) (cfg : StorageCfg) (args : StorageArgs) :
    let s := mkStorage home cfg args
    mkStorage home (storageToCfg s) {} = s :=
  mkStorage_dumpLoad home cfg args

/-- the same for a cluster, whichever way it got its storage (`hsa`: an explicit backend was made by a constructor) -/
theorem cluster_dump_roundtrip (home : Str) (cfg : ClusterCfg) (sa : Option StorageSig) (ra : Option Str)
    (hsa : ∀ s, sa = some s → ∃ c a, s = mkStorage home c a) :
    mkCluster home (clusterToCfg (mkCluster home cfg sa ra)) none none = mkCluster home cfg sa ra := by
  cases sa with
  | some s => exact mkCluster_dumpLoad (hsa s rfl)
  | none =>
    cases hc : cfg.storage with
    | some sc => exact mkCluster_dumpLoad ⟨sc, {}, by simp only [mkCluster, hc]⟩
    | none => exact mkCluster_dumpLoad ⟨{ type := 0 }, {}, by simp only [mkCluster, hc]⟩

/-- a cluster name resolves to the first repository in priority order that defines it -/
theorem get_cluster_first (pre : List Repo) (r : Repo) (post : List Repo) (n : Str) (c : ClusterSig)
    (hpre : ∀ q ∈ pre, repoGet q n = none) (hr : repoGet r n = some c) :
    getCluster (pre ++ r :: post) n = some c := by
  rw [getCluster_eq, List.findSome?_append, List.findSome?_eq_none_iff.mpr hpre, List.findSome?_cons, hr]
  rfl

/-- or to nothing, when no repository defines it -/
theorem get_cluster_none (e : Env) (n : Str) (h : ∀ q ∈ e, repoGet q n = none) : getCluster e n = none := by
  rw [getCluster_eq, List.findSome?_eq_none_iff]
  exact h

/-- "explicit arguments override the file" for a repository: an explicit `clusters` argument replaces the clusters of the
    configuration as a whole -/
theorem repo_clusters_arg_overrides (home : Str) (cfgClusters : List (Str × ClusterCfg)) (arg : Repo) (n : Str) :
    repoGet (mkRepo home cfgClusters (some arg)) n = repoGet arg n := rfl

/-- so a name defined only in the configuration resolves to a later repository or to nothing -/
theorem repo_clusters_arg_hides_config (home : Str) (cfgClusters : List (Str × ClusterCfg)) (arg : Repo) (post : List Repo)
    (n : Str) (h : repoGet arg n = none) :
    getCluster (mkRepo home cfgClusters (some arg) :: post) n = getCluster post n := by
  simp only [getCluster, mkRepo, h]

/-- without the argument the clusters are those of the configuration, each built as `FunctionCluster(config)` builds it -/
theorem repo_clusters_from_config (home : Str) (k : Str) (cc : ClusterCfg) (rest : List (Str × ClusterCfg)) :
    repoGet (mkRepo home ((k, cc) :: rest) none) k = some (mkCluster home cc none none) := by
  rw [repoGet_mkRepo_none, Store.alookup_cons, if_pos rfl]
  rfl

example : getCluster [mkRepo 9 [(1, { name := 1 })] (some [(2, mkCluster 9 { name := 2 } none none)]),
                      [(1, mkCluster 9 { name := 1, runner := some 1 } none none)]] 1
    = some (mkCluster 9 { name := 1, runner := some 1 } none none) := by decide +kernel

/-- every cluster was made by the constructors -/
def WellMade (home : Str) (e : Env) : Prop :=
  ∀ r ∈ e, ∀ kc ∈ r, ∃ cfg sa ra, (∀ s, sa = some s → ∃ c a, s = mkStorage home c a) ∧ kc.2 = mkCluster home cfg sa ra

theorem dumpLoad_of_wellMade (home : Str) (e : Env) (hw : WellMade home e) : dumpLoad home e = e := by
  refine (List.map_congr_left fun r hr => ?_).trans (List.map_id e)
  refine (List.map_congr_left fun kc hkc => ?_).trans (List.map_id r)
  obtain ⟨cfg, sa, ra, hsa, h⟩ := hw r hr kc hkc
  rw [h, cluster_dump_roundtrip home cfg sa ra hsa, ← h]
  rfl

/-- **dump round trip**: an environment rebuilt from its dictionary form resolves every cluster name to a cluster with
    the same storage and runner behaviour (same priority order, duplicates included) -/
theorem env_dump_roundtrip (home : Str) (e : Env) (hw : WellMade home e) (n : Str) :
    getCluster (dumpLoad home e) n = getCluster e n := by
  rw [dumpLoad_of_wellMade home e hw]

example : mkStorage 9 { type := 0, path := some 1, metaPath := some 2, cacheMb := some 5, readonly := some true } {} =
    { type := 0, path := some 1, metaPath := some 2, cache := some 5, readOnly := true } := by decide +kernel
example : mkStorage 9 { type := 0, path := some 1, cacheMb := some 5 } { cacheMb := some 0, readOnly := some true } =
    { type := 0, path := some 1, metaPath := some 1, cache := none, readOnly := true } := by decide +kernel
example : getCluster [[(1, ⟨1, mkStorage 9 { type := 1 } {}, 0⟩)], [(1, ⟨1, mkStorage 9 { type := 2 } {}, 1⟩), (2, ⟨2, mkStorage 9 { type := 0 } {}, 0⟩)]] 1 =
    some ⟨1, mkStorage 9 { type := 1 } {}, 0⟩ := by decide +kernel

end Memento.Config
