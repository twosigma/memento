import MementoModel.Lemmas.RunnerProgLemmas

/-!
# C02 — memoization is transparent: same outcome, body runs once per distinct call

On `Model/Runner.lean`, for **all** programs (arbitrary interaction trees), stores and histories.
Exceptions compare up to `replay` (an exception that cannot be rebuilt from its message is replayed
as the framework's memoized-exception type).
Calls under `with_prevent_further_calls` are C16's (their RuntimeError is recorded under the
ordinary key, so they are excluded here by `NoPrevent` / `fl.prevent = false`).
-/
namespace Memento.Runner

/-- replay keeps the class when it can be rebuilt from the message, otherwise gives the memoized-exception type;
    the original message is preserved -/
theorem replay_class (c m : Nat) :
    replay (.exc c m) = .exc (if c = clsOpaque then clsMemento else c) m ∧
    (∀ v, replay (.val v) = .val v) ∧ replay (replay (.exc c m)) = replay (.exc c m) :=
  ⟨rfl, fun _ => rfl, replay_replay _⟩

/-- more fuel never changes a result -/
theorem run_mono (P : Prog) (n : Nat) (s : St) (c : Option Frame) (fn : Fn) (args : List Val) (ctx : CtxSpec) (fl : Flags)
    (r : BatchResult) (h : run P n s c fn args ctx fl = some r) : run P (n + 1) s c fn args ctx fl = some r :=
  run_le P (Nat.le_succ n) h

/-- **transparency**: from any sound store, a memoized call returns what the un-memoized execution of the
    same program returns (value, or exception up to `replay`), and leaves a sound store -/
theorem run_transparent (P : Prog) (hw : WellBehaved P) (hp : NoPrevent P) (n : Nat) (s s' : St) (fn : Fn) (arg : Val)
    (ctx : CtxSpec) (fl : Flags) (hfl : fl.prevent = false) (o : Outcome) (hs : Sound P s)
    (h : callTop P n s fn arg ctx fl = some (s', o)) :
    (∃ m o', pureCall P m fn arg ctx fl = some o' ∧ Outcome.sim o o') ∧ Sound P s' := by
  obtain ⟨res, recs, hrun, hres⟩ := callTop_eq_some_iff.1 h
  obtain ⟨hs', m, sd', res', recs', e, hsim, _⟩ := run_sim_top hw hp hs hfl hrun
  obtain ⟨o', hres', ho⟩ := hsim.single hres
  refine ⟨⟨m, o', ?_, ho⟩, hs'⟩
  rw [pureCall_eq, callTop_eq_some_iff.2 ⟨res', recs', e, hres'⟩]
  rfl

/-- a memoized call does not run any body and does not change the store -/
theorem memoized_call_executes_nothing (P : Prog) (n : Nat) (s : St) (fn : Fn) (arg : Val) (c : Ctx) (fl : Flags) (r : Rec)
    (hr : s.get ⟨fn, arg, c⟩ = some r) :
    callTop P (n + 1) s fn arg (.set c) fl = some (s, serve r fl) := by
  rw [callTop_succ, effCtx_set, runLocal_hit hr]

/-- exceptions marked as not-to-be-memoized are never recorded; every other outcome of a computed call is.

    The first half carries the hypothesis `NotReentrant s s' k` and is false without it: if the body
    re-enters its own key `k` (inner call), the inner execution may return normally and be recorded although
    the outer one raises the not-to-be-memoized exception — counterexample `reentrantP` below (the inner call
    is made with `with_prevent_further_calls(True)`, so *its* nested call fails and it takes the other branch). -/
theorem recorded_iff_memoizable (P : Prog) (n : Nat) (s s' : St) (fn : Fn) (arg : Val) (c : Ctx) (fl : Flags) (o : Outcome)
    (he : s.enabled = true) (hn : s.get ⟨fn, arg, c⟩ = none)
    (h : callTop P n s fn arg (.set c) fl = some (s', o)) :
    ((∃ m, o = .exc clsNonMemoized m) → NotReentrant s s' ⟨fn, arg, c⟩ → s'.get ⟨fn, arg, c⟩ = none) ∧
    ((∀ m, o ≠ .exc clsNonMemoized m) → (s'.get ⟨fn, arg, c⟩).isSome) := by
  constructor
  · rintro ⟨m, hm⟩ hre
    obtain ⟨ob, r, ho, _, hnone, _⟩ := callTop_miss_get ⟨fn, arg, c⟩ rfl he hn h hre
    exact hnone (by rw [← isNonMemo_deliver fl, ← ho, hm]; rfl)
  · intro hm
    obtain ⟨s1, ob, fr1, rest, ho, hs, _, hen, _⟩ := callTop_miss_spec ⟨fn, arg, c⟩ rfl hn h
    rw [hs]
    exact storeAfter_get_isSome (by rw [← isNonMemo_deliver fl, ← ho]; exact isNonMemo_eq_false hm) (hen.trans he)

/-- "the first call runs the body exactly once and every later call … without running the body again":
    an immediately repeated call executes nothing and returns the replayed outcome.

    The hypothesis `NotReentrant s s' k` (see `recorded_iff_memoizable`) cannot be dropped: if the body re-enters
    its own key, the store keeps the record of the *inner* execution, whose outcome may differ from what the
    outer execution returned — counterexample `reentrantP'` below. -/
theorem repeat_executes_nothing (P : Prog) (n : Nat) (s s' : St) (fn : Fn) (arg : Val) (c : Ctx) (o : Outcome)
    (he : s.enabled = true) (h : callTop P n s fn arg (.set c) {} = some (s', o)) (hm : ∀ m, o ≠ .exc clsNonMemoized m)
    (hre : NotReentrant s s' ⟨fn, arg, c⟩) :
    ∃ o2, callTop P (n + 1) s' fn arg (.set c) {} = some (s', o2) ∧ Outcome.sim o2 o := by
  cases hn : s.get ⟨fn, arg, c⟩ with
  | some r =>
    obtain ⟨rfl, rfl⟩ := callTop_hit_inv ⟨fn, arg, c⟩ rfl hn h
    exact ⟨_, memoized_call_executes_nothing P n (fl := {}) (hr := hn), rfl⟩
  | none =>
    obtain ⟨ob, r, ho, hr, _, hsome⟩ := callTop_miss_get ⟨fn, arg, c⟩ rfl he hn h hre
    rw [deliver_default] at ho
    subst ho
    refine ⟨_, memoized_call_executes_nothing P n (fl := {}) (hr := hsome (isNonMemo_eq_false hm)), ?_⟩
    rw [serve_default, hr]
    exact Outcome.sim_replay o

/-- in the regime of `run_transparent` (well-behaved program, no prevented nested call, sound store) both
    statements hold without `NotReentrant`, re-entrant or not:
    whatever record sits under the key afterwards (the outer execution's or an inner one's), the store is still
    `Sound`, so it is the un-memoized record, and the call's outcome is the un-memoized outcome -/
theorem recorded_iff_memoizable_sound (P : Prog) (hw : WellBehaved P) (hp : NoPrevent P) (n : Nat) (s s' : St) (fn : Fn)
    (arg : Val) (c : Ctx) (fl : Flags) (hfl : fl.prevent = false) (o : Outcome) (hs : Sound P s)
    (hn : s.get ⟨fn, arg, c⟩ = none) (h : callTop P n s fn arg (.set c) fl = some (s', o)) :
    ((∃ m, o = .exc clsNonMemoized m) → s'.get ⟨fn, arg, c⟩ = none) ∧
    ((∀ m, o ≠ .exc clsNonMemoized m) → (s'.get ⟨fn, arg, c⟩).isSome) := by
  refine ⟨fun ⟨m, hm⟩ => ?_, (recorded_iff_memoizable (he := hs.1) (hn := hn) (h := h)).2⟩
  cases hg : s'.get ⟨fn, arg, c⟩ with
  | none => rfl
  | some r =>
    exfalso
    -- the record was added by this call, so it is memoizable
    obtain ⟨res, recs, hrun, _⟩ := callTop_eq_some_iff.1 h
    rcases run_added_memoizable P hrun hg with h0 | hnm
    · rw [hn] at h0; cases h0
    -- but it is the un-memoized record, whose outcome is the not-to-be-memoized exception the call raised
    obtain ⟨⟨m1, o', hpure, ho⟩, hs'⟩ := run_transparent (hw := hw) (hp := hp) (hfl := hfl) (hs := hs) (h := h)
    obtain ⟨ob, hrob, hout⟩ := hs'.get_pureCall hg hfl hpure
    rw [Outcome.sim_isNonMemo hrob, ← isNonMemo_deliver fl, ← hout, ← Outcome.sim_isNonMemo ho, hm] at hnm
    cases hnm

theorem repeat_executes_nothing_sound (P : Prog) (hw : WellBehaved P) (hp : NoPrevent P) (n : Nat) (s s' : St) (fn : Fn)
    (arg : Val) (c : Ctx) (o : Outcome) (hs : Sound P s) (h : callTop P n s fn arg (.set c) {} = some (s', o))
    (hm : ∀ m, o ≠ .exc clsNonMemoized m) :
    ∃ o2, callTop P (n + 1) s' fn arg (.set c) {} = some (s', o2) ∧ Outcome.sim o2 o := by
  obtain ⟨⟨m, o', hpure, ho⟩, hs'⟩ := run_transparent (hw := hw) (hp := hp) (hfl := rfl) (hs := hs) (h := h)
  have hsome : (s'.get ⟨fn, arg, c⟩).isSome := by
    cases hn : s.get ⟨fn, arg, c⟩ with
    | some r =>
      rw [(callTop_hit_inv ⟨fn, arg, c⟩ rfl hn h).1, hn]
      rfl
    | none => exact (recorded_iff_memoizable (he := hs.1) (hn := hn) (h := h)).2 hm
  obtain ⟨r, hr⟩ := Option.isSome_iff_exists.1 hsome
  refine ⟨_, memoized_call_executes_nothing P n (fl := {}) (hr := hr), ?_⟩
  -- it is the un-memoized record, whose outcome is the un-memoized outcome
  obtain ⟨ob, hrob, hout⟩ := hs'.get_pureCall hr rfl hpure
  rw [deliver_default] at hout
  rw [serve_default]
  exact (Outcome.sim_replay r.out).trans (hrob.trans ((congrArg replay hout.symm).trans ho.symm))

/-- the body of a call that was not memoized runs: its key is the first new entry of the execution trace -/
theorem unmemoized_call_executes (P : Prog) (n : Nat) (s s' : St) (fn : Fn) (arg : Val) (c : Ctx) (fl : Flags) (o : Outcome)
    (hn : s.get ⟨fn, arg, c⟩ = none) (h : callTop P n s fn arg (.set c) fl = some (s', o)) :
    ∃ rest, s'.trace = s.trace ++ (⟨fn, arg, c⟩ :: rest) := by
  obtain ⟨_, _, _, rest, _, _, ht, _, _⟩ := callTop_miss_spec ⟨fn, arg, c⟩ rfl hn h
  exact ⟨rest, ht⟩

/-- "forgetting a call makes exactly that call run again": after `forget k` the key is absent (so by
    `unmemoized_call_executes` it runs), every other entry is untouched -/
theorem forget_exact (s : St) (k k' : Key) :
    (forget s k).get k = none ∧ (k' ≠ k → (forget s k).get k' = s.get k') :=
  ⟨by rw [forget_get, if_pos rfl], fun h => by rw [forget_get, if_neg h]⟩

/-! counterexamples to `recorded_iff_memoizable` / `repeat_executes_nothing` without `NotReentrant`:
    `f(0)` calls `f(0)` under `with_prevent_further_calls(True)`; the inner execution's own nested call is
    refused (RuntimeError), so it takes the other branch, returns `5` and is recorded; the outer execution
    sees the value and raises the not-to-be-memoized exception (resp. returns `7`). -/
private def reentrantBody (final : Outcome) : Body :=
  .call 1 0 .inherit ⟨false, true⟩ (fun o => match o with
    | .exc _ _ => .ret (.val (some 5))
    | .val _ => .ret final)
private def reentrantP : Prog := ⟨fun _ _ => reentrantBody (.exc clsNonMemoized 0), fun _ => true, fun _ _ => true⟩
private def reentrantP' : Prog := ⟨fun _ _ => reentrantBody (.val (some 7)), fun _ => true, fun _ _ => true⟩

example : (callTop reentrantP 3 { store := [], trace := [] } 1 0 (.set 0) {}).map
      (fun x => (x.2, (x.1.get ⟨1, 0, 0⟩).map (·.out), x.1.trace)) =
    some (.exc clsNonMemoized 0, some (.val (some 5)), [⟨1, 0, 0⟩, ⟨1, 0, 0⟩]) := by decide +kernel
example : ((callTop reentrantP' 3 { store := [], trace := [] } 1 0 (.set 0) {}).bind
      (fun x => (callTop reentrantP' 4 x.1 1 0 (.set 0) {}).map (fun y => (x.2, y.2)))) =
    some (.val (some 7), .val (some 5)) := by decide +kernel

/-! non-vacuity: f2 calls f1(0) and f1(1) and catches what they raise; f1 raises an opaque exception on odd arguments
    (so the second call raises) -/
private def demoDefs : List (Fn × FnDef) :=
  [(1, ⟨[], 2, 1, clsOpaque, 5, 10, false⟩),
   (2, ⟨[.call 1 0 .inherit {} true (0, 0), .call 1 1 .inherit {} true (0, 0), .resource 7], 0, 0, 0, 0, 1, false⟩)]
private def demoP : Prog := progOf demoDefs [(2, 1)]
private def s0 : St := { store := [], trace := [] }

example : (callTop demoP 5 s0 2 0 .inherit {}).map (·.2) = some (.val (some (-998))) := by decide +kernel
example : ((callTop demoP 5 s0 2 0 .inherit {}).map (·.1.trace)) = some [⟨2, 0, 0⟩, ⟨1, 0, 0⟩, ⟨1, 1, 0⟩] := by decide +kernel
example : pureCall demoP 5 2 0 .inherit {} = some (.val (some (-998))) := by decide +kernel
/-! the hypotheses of `run_transparent` hold for it (as for every `progOf` program without prevent flags, from the empty store) -/
example : WellBehaved demoP := wellBehaved_progOf _ _
example : NoPrevent demoP := noPrevent_progOf _ _ (by decide)
example : Sound demoP s0 := Sound.empty _ _

end Memento.Runner
