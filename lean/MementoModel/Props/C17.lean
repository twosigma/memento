import MementoModel.Lemmas.PartitionLemmas

/-!
# C17 — partitions round-trip key by key and merge as an overlay of their parents

Model: `Model/Partition.lean` (`InMemoryPartition` / `OnDiskPartition` objects with `_merge_parent` and
the recorded `_output_keys`, `PicklePartition` read back from the store, `PicklePartitionStrategy.store`
after fixes F7/F20). Values are abstract: a value and the content key of its blob are identified (C02/C07).

`Serialised parent`: the parent, if any, was read back or has been stored (else the store fails:
`unserialised_parent_fails`). `Faithful p`: the indices in `p` and its ancestors have distinct keys and answer as the objects they
are recorded on. `store` establishes both.

What is read back has the same key set (with and without inherited keys) and the same value for every key, each key on
its own (the read-back partition holds the index only); the stored result is the parent's entries overlaid by the own ones,
for chains of any length, whichever way each level obtained its parent (`runChain`).

The last section (F29) is a model of its own, tied to the code by a directed scenario only (DESIGN §I.2).
-/
namespace Memento.Partition

/-- `get_mem` with `Option.or` written as the `match` in which `overlay` is stated -/
theorem mem_get (own : KV) (parent : Option Part) (rec : Option Index) (k : K) :
    (Part.mem own parent rec).get k = (match kvGet own k with | some v => some v | none => getOpt parent k) := by
  rw [get_mem]
  cases kvGet own k <;> rfl

/-- **round trip** of a partition object (`InMemoryPartition` / `OnDiskPartition`) whose parent, if any, can be merged -/
theorem roundtrip_mem (own : KV) (parent : Option Part) (rec : Option Index)
    (hs : Serialised parent) (hf : ∀ p, parent = some p → Faithful p) :
    ∃ ix, store (.mem own parent rec) = some (ix, .mem own parent (some ix)) ∧
      (ix.map (·.1)).Nodup ∧
      (∀ k, (load ix).get k = (Part.mem own parent rec).get k) ∧
      (load ix).listKeys true = (Part.mem own parent rec).listKeys true ∧
      (load ix).listKeys false = (Part.mem own parent rec).listKeys false := by
  obtain ⟨ix, hst, hnd, hv⟩ := store_mem_view own parent rec hs hf
  obtain ⟨hg, hl⟩ := observe_congr (p := load ix) (q := .mem own parent rec) hnd trivial hv
  exact ⟨ix, hst, hnd, hg, hl true, hl false⟩

/-- serialising does not change what the object handed back to the caller answers, and afterwards the object can
    itself serve as a parent -/
theorem store_preserves_argument (own : KV) (parent : Option Part) (rec : Option Index)
    (hs : Serialised parent) (hf : ∀ p, parent = some p → Faithful p) :
    ∃ ix, store (.mem own parent rec) = some (ix, .mem own parent (some ix)) ∧
      (∀ k, (Part.mem own parent (some ix)).get k = (Part.mem own parent rec).get k) ∧
      (∀ b, (Part.mem own parent (some ix)).listKeys b = (Part.mem own parent rec).listKeys b) ∧
      Faithful (.mem own parent (some ix)) ∧ Serialised (some (.mem own parent (some ix))) ∧ Faithful (load ix) := by
  obtain ⟨ix, hst, hnx⟩ := store_step own parent rec hs hf
  obtain ⟨h1, h2, h3⟩ := hnx _ (Or.inr rfl)
  refine ⟨ix, hst, h3, fun b => ?_, h2, h1, (hnx _ (Or.inl rfl)).2.1⟩
  cases parent <;> rfl

/-- **overlay**: the stored result answers with the own entry where there is one and with the parent's otherwise -/
theorem overlay (own : KV) (parent : Option Part) (rec : Option Index)
    (hs : Serialised parent) (hf : ∀ p, parent = some p → Faithful p) :
    ∃ ix p', store (.mem own parent rec) = some (ix, p') ∧
      ∀ k, (load ix).get k = (match kvGet own k with | some v => some v | none => getOpt parent k) := by
  obtain ⟨ix, hst, hnx⟩ := store_step own parent rec hs hf
  refine ⟨ix, _, hst, fun k => ?_⟩
  rw [(hnx _ (Or.inl rfl)).2.2 k, mem_get]

/-- **round trip of a read-back partition returned again** (fix F20): what is stored has exactly the entries of the index
    it was read from (inherited keys included), flags preserved -/
theorem roundtrip_pickle (ix : Index) (hn : (ix.map (·.1)).Nodup) :
    ∃ ix', store (.pickle ix) = some (ix', .pickle ix) ∧ (ix'.map (·.1)).Nodup ∧ (∀ k, ixGet ix' k = ixGet ix k) ∧
      (∀ k, (load ix').get k = (Part.pickle ix).get k) ∧
      (∀ b, (load ix').listKeys b = (Part.pickle ix).listKeys b) := by
  obtain ⟨ix', hst, hnd, hg⟩ := store_pickle hn
  obtain ⟨hget, hl⟩ := observe_congr (p := load ix') (q := .pickle ix) hnd hn hg
  exact ⟨ix', hst, hnd, hg, hget, hl⟩

/-- overlay of a list of dictionaries, later ones win -/
def overlayAll : List KV → K → Option V
  | [], _ => none
  | own :: rest, k =>
    match overlayAll rest k with
    | some v => some v
    | none => kvGet own k

/-- run a chain of memento functions, each returning a partition whose parent is the previous level's result.
    The flag says how the next level obtains that result: `true` = the partition read back from the store,
    `false` = the object the computing call handed back (also what the memory cache serves). `none` = some
    level could not be stored. -/
def runChain : List (KV × Bool) → Option Part → Option (Option Part)
  | [], q => some q
  | (own, fromStore) :: rest, q =>
    match store (.mem own q none) with
    | none => none
    | some (ix, p') => runChain rest (some (if fromStore then load ix else p'))

/-- the dictionaries of a chain, innermost (first computed) first -/
def chainOwns (c : List (KV × Bool)) : List KV := c.map (·.1)

theorem overlayAll_cons (own : KV) (rest : List KV) (k : K) :
    overlayAll (own :: rest) k = (overlayAll rest k).or (kvGet own k) := by
  rw [overlayAll]
  cases overlayAll rest k <;> rfl

/-- induction over the chain, from any mergeable parent `q` that answers as `done` -/
theorem chain_overlay_aux (c : List (KV × Bool)) : ∀ (q : Option Part) (done : K → Option V),
    Serialised q → (∀ p, q = some p → Faithful p) → (∀ k, getOpt q k = done k) →
    ∃ r, runChain c q = some r ∧ Serialised r ∧ (∀ p, r = some p → Faithful p) ∧
      ∀ k, getOpt r k = (overlayAll (chainOwns c) k).or (done k) := by
  induction c with
  | nil => exact fun q done hs hf hd => ⟨q, rfl, hs, hf, hd⟩
  | cons lv rest ih =>
    intro q done hs hf hd
    obtain ⟨ix, hst, hnx⟩ := store_step lv.1 q none hs hf
    obtain ⟨h1, h2, h3⟩ := hnx (if lv.2 then load ix else .mem lv.1 q (some ix)) (by
      cases lv.2
      · exact Or.inr rfl
      · exact Or.inl rfl)
    obtain ⟨r, hr, hrs, hrf, hrg⟩ := ih _ (fun k => (kvGet lv.1 k).or (done k)) h1
      (fun p e => Option.some.inj e ▸ h2) (fun k => by rw [getOpt, h3 k, get_mem, hd k])
    refine ⟨r, ?_, hrs, hrf, fun k => ?_⟩
    · rw [runChain, hst]
      exact hr
    · rw [hrg k]
      simp only [chainOwns, List.map_cons, overlayAll_cons, Option.or_assoc]

/-- **chains of any length**: every level is stored (nothing is silently left un-memoized), and the final result is the
    overlay of all levels, later levels winning — whichever way each level obtained its parent -/
theorem chain_overlay (c : List (KV × Bool)) :
    ∃ r, runChain c none = some r ∧ ∀ k, getOpt r k = overlayAll (chainOwns c) k := by
  obtain ⟨r, hr, _, _, hg⟩ := chain_overlay_aux c none (fun _ => none) trivial (fun p hp => nomatch hp) (fun k => rfl)
  exact ⟨r, hr, fun k => by rw [hg k, Option.or_none]⟩

/-- a parent that was never serialised cannot be merged: the store fails (the runner then does not memoize the
    result) — this is the situation the attribute mix-up of F7 created for every in-memory parent -/
theorem unserialised_parent_fails (own own' : KV) (gp : Option Part) :
    store (.mem own (some (.mem own' gp none)) none) = none :=
  Option.not_isSome_iff_eq_none.mp (fun h => store_isSome_iff.mp h)

example : ∃ r, runChain [([(1, 10), (2, 20)], false), ([(2, 21), (3, 30)], true), ([(3, 31), (4, 40)], false)] none = some (some r) ∧
    r.get 1 = some 10 ∧ r.get 2 = some 21 ∧ r.get 3 = some 31 ∧ r.get 4 = some 40 ∧ r.get 5 = none ∧
    r.listKeys true = [1, 2, 3, 4] ∧ r.listKeys false = [3, 4] := by
  refine ⟨_, rfl, ?_⟩
  decide +kernel

/-! ### where a partition says its entries live (fix F29)

`PicklePartitionStrategy.store` records on an in-memory / on-disk partition object the index it wrote **and the data source it wrote
it to** (`_output_keys`, `_parent_data_source`); a later merge copies the parent's entries into the child's index as references into
that data source. Assigning a partition to a key of an `OnDiskPartition` also runs `store`, against that partition's temporary
staging area. The record below adds the data source to `recorded`; `recordAfter` is the last statement of `store` (with the fix:
a staging area never replaces the record; `recordAfterUnfixed` is the code before F29). -/

inductive Area
  | cluster            -- the data source of the cluster's storage backend
  | staging (n : Nat)  -- the temporary directory of the n-th `OnDiskPartition`
deriving DecidableEq, Repr

abbrev Where := Option (Area × Index)

def recordAfter (ds : Area) (ix : Index) (r : Where) : Where :=
  match ds with
  | .staging _ => r
  | .cluster => some (.cluster, ix)

def recordAfterUnfixed (ds : Area) (ix : Index) (_ : Where) : Where := some (ds, ix)

/-- the record after a sequence of writes of the object -/
def recordAfterAll (r : Where) : List (Area × Index) → Where
  | [] => r
  | (ds, ix) :: rest => recordAfterAll (recordAfter ds ix r) rest

/-- a record never points into a staging area, whatever the object was assigned to and however often -/
theorem record_never_in_staging (ws : List (Area × Index)) (r : Where)
    (hr : ∀ a ix, r = some (a, ix) → a = .cluster) :
    ∀ a ix, recordAfterAll r ws = some (a, ix) → a = .cluster := by
  induction ws generalizing r with
  | nil => exact hr
  | cons w ws ih =>
    obtain ⟨ds, ix⟩ := w
    apply ih
    intro a ix' h
    cases ds with
    | staging n => exact hr a ix' h
    | cluster =>
      simp only [recordAfter, Option.some.injEq, Prod.mk.injEq] at h
      exact h.1.symm

/-- staging leaves the record exactly as it was: what a later merge copies is what the last write to the cluster's store recorded -/
theorem staging_keeps_record (n : Nat) (ix : Index) (r : Where) : recordAfter (.staging n) ix r = r := rfl

theorem cluster_write_records (ix : Index) (r : Where) : recordAfter .cluster ix r = some (.cluster, ix) := rfl

/-- before F29 the record followed the last write, wherever it went: memoized, then staged = pointing into the staging area -/
example : recordAfterUnfixed (.staging 0) [(1, 10, false)] (recordAfterUnfixed .cluster [(1, 10, false)] none) =
    some (.staging 0, [(1, 10, false)]) := rfl
example : recordAfterAll none [(.cluster, [(1, 10, false)]), (.staging 0, [(1, 10, false)]), (.staging 1, [])] =
    some (.cluster, [(1, 10, false)]) := rfl

end Memento.Partition
