import MementoModel.Lemmas.RunnerTop

/-!
# C15 — batch evaluation equals element-wise evaluation, in order
-/
namespace Memento.Runner

/-- individual top-level calls `f(a₁), …, f(aₙ)` in order, collecting each outcome (returned or raised) -/
def seqCalls (P : Prog) (n : Nat) : St → Fn → List Val → CtxSpec → Flags → Option (St × List Outcome)
  | s, _, [], _, _ => some (s, [])
  | s, fn, a :: as, ctx, fl =>
    match run P n s none fn [a] ctx fl with
    | some (s1, .ok [o], _) =>
      match seqCalls P n s1 fn as ctx fl with
      | some (s2, os) => some (s2, o :: os)
      | none => none
    | _ => none

theorem seqCalls_eq (P : Prog) (n : Nat) (fn : Fn) (ctx : CtxSpec) (fl : Flags) :
    ∀ (args : List Val) (s : St), seqCalls P (n + 1) s fn args ctx fl =
      match seqLocal P (E P n) fl s (args.map fun a => ⟨fn, a, effCtx none ctx⟩) with
      | none => none
      | some (s', os, _) => some (s', os) := by
  intro args
  induction args with
  | nil => exact fun _ => rfl
  | cons a as ih =>
    intro s
    rw [seqCalls, run_single (caller := none) rfl rfl, List.map_cons, seqLocal]
    cases runLocal P (E P n) s ⟨fn, a, effCtx none ctx⟩ fl with
    | none => rfl
    | some x =>
      simp only [ih]
      cases seqLocal P (E P n) fl x.1 (as.map fun a => ⟨fn, a, effCtx none ctx⟩) with
      | none => rfl
      | some y => rfl

/-- **batch = map**: one `call_batch` returns, position by position, what the individual calls return —
    for any mix of already memoized, not yet memoized, duplicated and failing elements — and leaves
    the same store and the same executions.

    Stated at fuel `n + 1` (i.e. "fuel ≥ 1"): at fuel `0` it is false for the empty batch (counterexample
    below), since `run … 0 …` is "out of fuel" whereas no individual call is made at all. It holds for
    disabled stores too. -/
theorem batch_eq_map (P : Prog) (n : Nat) (s : St) (fn : Fn) (args : List Val) (ctx : CtxSpec) (fl : Flags) :
    batchTop P (n + 1) s fn args ctx fl = seqCalls P (n + 1) s fn args ctx fl := by
  rw [seqCalls_eq, batchTop, run_succ, runBatchWith_nf (E_ext P n)]
  cases seqLocal P (E P n) fl s (args.map fun a => ⟨fn, a, effCtx none ctx⟩) with
  | none => rfl
  | some x => rfl

/-- counterexample to `batch_eq_map` at fuel `0` -/
example : batchTop (progOf [] []) 0 { store := [], trace := [] } 1 [] .inherit {} ≠
    seqCalls (progOf [] []) 0 { store := [], trace := [] } 1 [] .inherit {} := by
  simp [batchTop, run, seqCalls]

/-- with `raise_first_exception` the batch raises the first failure in order -/
theorem raise_first_is_first (os : List Outcome) (e : Outcome) (h : firstExc os = some e) :
    ∃ pre post, os = pre ++ e :: post ∧ (∀ o ∈ pre, o.isExc = false) ∧ e.isExc = true := by
  fun_induction firstExc os
  case case1 => cases h                             -- no slot
  case case2 c m tail =>                            -- the first slot is an exception
    cases h
    exact ⟨[], tail, rfl, by simp, rfl⟩
  case case3 head r hv ih =>                        -- the first slot is a value
    obtain ⟨pre, post, h1, h2, h3⟩ := ih h
    refine ⟨head :: pre, post, by rw [h1]; rfl, ?_, h3⟩
    intro o ho
    rcases List.mem_cons.1 ho with rfl | ho
    · cases o with
      | val v => rfl
      | exc c m => exact (hv c m rfl).elim
    · exact h2 o ho

/-- each distinct element's body runs at most once: a duplicate of an element that was memoized by
    an earlier position is served by the re-check, without executing -/
theorem duplicate_served (P : Prog) (exec) (s : St) (key : Key) (fl : Flags) (r : Rec) (h : s.get key = some r) :
    runLocal P exec s key fl = some (s, serve r fl, r) :=
  runLocal_hit h

/-! ## Batches issued from inside another memento function

The same equality one level down: a `call_batch` made by the body of a running function (frame `caller`) does what the
individual calls made from that frame do — same store, same outcomes **and the same mementos handed back to the caller**, so
the caller's recorded invocations and dependencies (`propagate`) are the same. Stated for calls the frame may make (declared
dependency, further calls not prevented); a refused batch is refused as a whole (`prevented_batch_refused`, which is C16's
`prevent_further_calls` read at `run`). -/

/-- individual calls `f(a₁), …, f(aₙ)` made from frame `caller` (or from the top level when `none`), in order -/
def seqCallsFrom (P : Prog) (n : Nat) (caller : Option Frame) :
    St → Fn → List Val → CtxSpec → Flags → Option (St × List Outcome × List Rec)
  | s, _, [], _, _ => some (s, [], [])
  | s, fn, a :: as, ctx, fl =>
    match run P n s caller fn [a] ctx fl with
    | some (s1, .ok [o], [r]) =>
      match seqCallsFrom P n caller s1 fn as ctx fl with
      | some (s2, os, rs) => some (s2, o :: os, r :: rs)
      | none => none
    | _ => none

theorem seqCallsFrom_eq (P : Prog) (n : Nat) (caller : Option Frame) (fn : Fn) (ctx : CtxSpec) (fl : Flags)
    (hu : undeclared P caller fn = false) (hp : prevented caller = false) :
    ∀ (args : List Val) (s : St), seqCallsFrom P (n + 1) caller s fn args ctx fl =
      seqLocal P (E P n) fl s (args.map fun a => ⟨fn, a, effCtx caller ctx⟩) := by
  intro args
  induction args with
  | nil => exact fun _ => rfl
  | cons a as ih =>
    intro s
    rw [seqCallsFrom, run_single hu hp, List.map_cons, seqLocal]
    cases runLocal P (E P n) s ⟨fn, a, effCtx caller ctx⟩ fl with
    | none => rfl
    | some x =>
      simp only [ih]
      cases seqLocal P (E P n) fl x.1 (as.map fun a => ⟨fn, a, effCtx caller ctx⟩) with
      | none => rfl
      | some y => rfl

/-- **a batch made from any frame = the individual calls made from that frame**, position by position, with the same
    final store, the same executions and the same mementos handed to the caller; `batch_eq_map` is its reading at
    `caller := none`, the mementos dropped -/
theorem batch_eq_calls_from (P : Prog) (n : Nat) (s : St) (caller : Option Frame) (fn : Fn) (args : List Val)
    (ctx : CtxSpec) (fl : Flags) (hu : undeclared P caller fn = false) (hp : prevented caller = false) :
    (match run P (n + 1) s caller fn args ctx fl with
     | some (s', .ok os, rs) => some (s', os, rs)
     | _ => none) = seqCallsFrom P (n + 1) caller s fn args ctx fl := by
  rw [seqCallsFrom_eq P n caller fn ctx fl hu hp, run_succ, runBatchWith_nf (E_ext P n), hu, hp]
  cases seqLocal P (E P n) fl s (args.map fun a => ⟨fn, a, effCtx caller ctx⟩) with
  | none => rfl
  | some x => rfl

/-- what the caller's frame records is the same: folding the batch's mementos into the frame is folding the individual
    calls' mementos one after the other -/
theorem propagate_batch_eq_calls (fr : Frame) (r : Rec) (rs : List Rec) :
    (r :: rs).foldl propagate fr = rs.foldl propagate (propagate fr r) := rfl

/-- a batch from a frame whose further calls are prevented is refused as a whole with a runtime error, whatever is memoized -/
theorem prevented_batch_refused (P : Prog) (n : Nat) (s : St) (fr : Frame) (fn : Fn) (args : List Val) (ctx : CtxSpec)
    (fl : Flags) (hu : undeclared P (some fr) fn = false) (hp : fr.prevent = true) :
    run P (n + 1) s (some fr) fn args ctx fl = some (s, .error (.exc clsRuntime 0), []) := by
  rw [run_succ]
  exact runBatchWith_prevented hu hp

/-! non-vacuity: duplicates and a failing element, one element memoized beforehand -/
private def demoDefs : List (Fn × FnDef) := [(1, ⟨[], 3, 1, clsRebuildable, 5, 10, false⟩)]
private def demoP : Prog := progOf demoDefs []
private def cold : St := { store := [], trace := [] }
private def warm : St := ((callTop demoP 5 cold 1 2 .inherit {}).map (·.1)).getD cold

example : (batchTop demoP 5 warm 1 [0, 1, 0, 2] .inherit {}).map (fun x => (x.2, x.1.trace.length)) =
    some ([.val (some 10), .exc clsRebuildable 5, .val (some 10), .val (some 30)], 3) := by decide +kernel
example : (batchTop demoP 5 warm 1 [0, 1, 0, 2] .inherit {}).map (fun x => (x.2, x.1.trace)) =
    (seqCalls demoP 5 warm 1 [0, 1, 0, 2] .inherit {}).map (fun x => (x.2, x.1.trace)) := by decide +kernel

/-- a frame of function 1 (running `f1(7)`) -/
private def demoFr : Frame := { key := ⟨1, 7, 0⟩, prevent := false, invs := [], res := [], deps := [1] }
example : undeclared demoP (some demoFr) 1 = false ∧ prevented (some demoFr) = false := by decide
example : (match run demoP 5 warm (some demoFr) 1 [0, 1, 0, 2] .inherit {} with
    | some (s', .ok os, rs) => some (s'.trace, os, rs.map (·.key))
    | _ => none) = (seqCallsFrom demoP 5 (some demoFr) warm 1 [0, 1, 0, 2] .inherit {}).map (fun x => (x.1.trace, x.2.1, x.2.2.map (·.key))) := by decide +kernel

end Memento.Runner
