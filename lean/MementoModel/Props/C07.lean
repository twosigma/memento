import MementoModel.Lemmas.StoreLemmas
import MementoModel.Lemmas.StoreData
import MementoModel.Props.C05

/-!
# C07 — result blobs are content-addressed, deduplicated and immutable once referenced

`Bytes` ids stand for byte strings with SHA-256 idealised as injective: the content key of bytes
`b` is `K.content b`. The statements are over every admissible history of the C05 op language (which includes
key-override writes to shared override keys), or over any well-formed backend or store where that suffices.
-/
namespace Memento.Store

def reach (separate : Bool) (budget : Option Nat) (ops : List Op) : FsBackend :=
  (runFs (FsBackend.init separate budget false) ops).1

theorem reach_wf (separate : Bool) (budget : Option Nat) (ops : List Op)
    (hadm : AdmissibleFs (FsBackend.init separate budget false) ops) : WF (reach separate budget ops) :=
  (runFs_refines ops _ (fs_init_wf separate budget) hadm).2.2

/-- "the bytes found under a content key always hash to that key": every version file of a content
    key `c/<h>` holds exactly the bytes `h` -/
theorem content_key_integrity (separate : Bool) (budget : Option Nat) (ops : List Op)
    (hadm : AdmissibleFs (FsBackend.init separate budget false) ops) :
    ∀ h v c, alookup (reach separate budget ops).ds.objs (.content h, v) = some c → c = .blob h :=
  (reach_wf separate budget ops hadm).ds.contentOk

/-- "results that serialize to the same bytes, whichever functions produced them, share one
    stored object instead of creating another": a content key never has two version files -/
theorem one_object_per_content_key (separate : Bool) (budget : Option Nat) (ops : List Op)
    (hadm : AdmissibleFs (FsBackend.init separate budget false) ops) (h : Bytes) :
    ((reach separate budget ops).ds.objs.filter (fun p => p.1.1 == K.content h)).length ≤ 1 :=
  (reach_wf separate budget ops hadm).ds.content_unique h

set_option linter.unusedVariables false in
/-- memoizing bytes that are already stored (no key override) creates no data object at all
    (`hadm` is not used by the proof) -/
theorem memoize_existing_bytes_writes_no_data (s : FsBackend) (h : WF s) (fn arg mem b sz wr)
    (hadm : FsBackend.admissible s (.memoize fn arg none mem (some b) sz wr))
    (hex : s.ds.existsNV (.content b) = true) :
    (FsBackend.step s (.memoize fn arg none mem (some b) sz wr)).1.ds.objs.filter (fun p => !p.1.1.isMetaArea)
      = s.ds.objs.filter (fun p => !p.1.1.isMetaArea) := by
  rw [FsBackend.step_ds, h.writable]
  simp only [Bool.false_eq_true, if_false, DS.step]
  rw [FsBackend.codecStore_existing s.ds b hex]
  exact DS.dataObjs_output_meta s.ds rfl

/-- "a memento keeps reading exactly the bytes that were stored when it was created, whatever is
    memoized, overwritten under the same override key, or forgotten afterwards": a data-area
    version file, once written, is never modified or removed by any other operation -/
theorem data_objects_immutable (s : FsBackend) (op : Op) (h : WF s) (hadm : FsBackend.admissible s op)
    (hw : Op.wipesData s.separate op = false) (k : K) (v : Ver) (c : Content)
    (hk : k.isMetaArea = false) (hc : s.ds.inputV k v = some c) :
    (FsBackend.step s op).1.ds.inputV k v = some c := by
  rw [FsBackend.step_ds, h.writable]
  exact DS.step_inputV h.ds _ op (DS.admissible_of hadm) hw hk hc

/-- the same along every history that contains no data-wiping operation -/
theorem memento_reads_own_bytes (s : FsBackend) (ops : List Op) (h : WF s) (hadm : AdmissibleFs s ops)
    (hw : ∀ op ∈ ops, Op.wipesData s.separate op = false) (k : K) (v : Ver) (c : Content)
    (hk : k.isMetaArea = false) (hc : s.ds.inputV k v = some c) :
    (runFs s ops).1.ds.inputV k v = some c := by
  induction ops generalizing s with
  | nil => exact hc
  | cons op ops ih =>
    rw [runFs_cons]
    have h1 := fsbackend_refines_dict s op h hadm.1
    apply ih _ h1.2.2 hadm.2
    · intro op' hop'
      rw [(FsBackend.step_store s op).2.2]
      exact hw op' (List.mem_cons_of_mem _ hop')
    · exact data_objects_immutable s op h hadm.1 (hw op List.mem_cons_self) k v c hk hc

/-- forget_call / forget_function never delete data objects (nor does forget_everything when the
    metadata has its own root) -/
theorem forget_deletes_no_data (s : FsBackend) (op : Op) (h : WF s)
    (hop : (∃ fn arg, op = .fcall fn arg) ∨ (∃ fn, op = .ffn fn) ∨ (op = .fall ∧ s.separate = true)) :
    (FsBackend.step s op).1.ds.objs.filter (fun p => !p.1.1.isMetaArea)
      = s.ds.objs.filter (fun p => !p.1.1.isMetaArea) := by
  rw [FsBackend.step_ds, h.writable]
  rcases hop with ⟨fn, arg, rfl⟩ | ⟨fn, rfl⟩ | ⟨rfl, hsep⟩
  · exact DS.step_forget_dataObjs s.separate s.ds (.fcall fn arg) rfl rfl
  · exact DS.step_forget_dataObjs s.separate s.ds (.ffn fn) rfl rfl
  · exact DS.step_forget_dataObjs s.separate s.ds .fall rfl (by rw [hsep]; rfl)

private def demo7 : List Op :=
  [.memoize 1 1 none 10 (some 7) 40 false, .memoize 2 1 none 11 (some 7) 40 false,   -- same bytes, two functions
   .memoize 1 2 (some 1) 12 (some 8) 40 false, .memoize 2 2 (some 1) 13 (some 9) 40 false, -- override key rewritten
   .ffn 2, .lookread 1 1, .lookread 1 2]

example : ((reach false none demo7).ds.objs.filter (fun p => p.1.1 == K.content 7)).length = 1 := by decide
example : (runFs (FsBackend.init false none false) demo7).2.drop 5 = [.val (some (some 7)), .val (some (some 8))] := by decide

/-! ### partitions: several objects per result

`PicklePartitionStrategy.store` (no key override) sends every value of the partition through the value codec — the same
`codecStore` as a plain result, so each lands under its own content key — and then stores the index document, again
content-addressed. At the level of the object store a partition is therefore a *list of byte strings written one after
the other* (the values in key order, then the index). The statements of this file hold along such a list as well. -/

/-- the object-store effect of storing a partition: the byte strings of its values, then of its index -/
def storeBlobs (d : DS) : List Bytes → DS
  | [] => d
  | b :: bs => storeBlobs (FsBackend.codecStore d none (some b)).1 bs

/-- well-formedness (content keys hold their own bytes, one object per content key) is kept, and no object that was
    there is modified or removed (for the bound see `cexBigBytes`, Props/C05) -/
theorem storeBlobs_wf : ∀ (bs : List Bytes) (d : DS), DSWF d → (∀ b ∈ bs, b + 1 < 1000000) →
    DSWF (storeBlobs d bs) ∧ ObjsExt d (storeBlobs d bs)
  | [], d, h, _ => ⟨h, ObjsExt.refl d⟩
  | b :: bs, d, h, hb => by
    obtain ⟨hstep, _⟩ := FsBackend.codecStore_spec h none (some b)
      (by intro b' e; cases e; exact hb b List.mem_cons_self)
    obtain ⟨h2, e2⟩ := storeBlobs_wf bs _ hstep.wf (fun x hx => hb x (List.mem_cons_of_mem _ hx))
    exact ⟨h2, hstep.ext.trans e2⟩

theorem existsNV_content_codecStore (d : DS) (b c : Bytes) (h : b = c ∨ d.existsNV (.content b) = true) :
    (FsBackend.codecStore d none (some c)).1.existsNV (.content b) = true := by
  cases hexc : d.existsNV (.content c) with
  | true =>
    rw [FsBackend.codecStore_existing d c hexc]
    exact h.elim (fun e => e ▸ hexc) id
  | false =>
    rw [FsBackend.codecStore_fresh d c hexc]
    exact DS.existsNV_output (h.imp_left (congrArg K.content))

theorem storeBlobs_exists : ∀ (bs : List Bytes) (d : DS),
    (∀ b, d.existsNV (.content b) = true → (storeBlobs d bs).existsNV (.content b) = true) ∧
    (∀ b ∈ bs, (storeBlobs d bs).existsNV (.content b) = true)
  | [], _ => ⟨fun _ h => h, fun _ h => by cases h⟩
  | c :: bs, d => by
    obtain ⟨ih1, ih2⟩ := storeBlobs_exists bs (FsBackend.codecStore d none (some c)).1
    refine ⟨fun b hex => ih1 b (existsNV_content_codecStore d b c (Or.inr hex)), ?_⟩
    intro b hbm
    rcases List.mem_cons.mp hbm with rfl | hbm
    · exact ih1 _ (existsNV_content_codecStore d _ _ (Or.inl rfl))
    · exact ih2 b hbm

theorem storeBlobs_existing : ∀ (bs : List Bytes) (d : DS), (∀ b ∈ bs, d.existsNV (.content b) = true) → storeBlobs d bs = d
  | [], _, _ => rfl
  | b :: bs, d, h => by
    simp only [storeBlobs]
    rw [FsBackend.codecStore_existing d b (h b List.mem_cons_self)]
    exact storeBlobs_existing bs d (fun x hx => h x (List.mem_cons_of_mem _ hx))

set_option linter.unusedVariables false in
/-- **equal partitions share all their objects**: storing the same values and index a second time (by whatever
    function) creates no object (`h`, `hb` are not used by the proof) -/
theorem partition_stored_twice_shares (d : DS) (h : DSWF d) (bs : List Bytes) (hb : ∀ b ∈ bs, b + 1 < 1000000) :
    storeBlobs (storeBlobs d bs) bs = storeBlobs d bs :=
  storeBlobs_existing bs _ (storeBlobs_exists bs d).2

/-- the values of a partition share objects with plain results of the same bytes: after a history that memoized the
    bytes `b`, a partition containing `b` writes no object for it -/
theorem partition_value_shared_with_plain_result (d : DS) (b : Bytes) (hex : d.existsNV (.content b) = true) :
    storeBlobs d [b] = d := storeBlobs_existing [b] d (by intro x hx; simp at hx; subst hx; exact hex)

/-- along a history followed by a partition write, content keys still hold their own bytes and have one object each -/
theorem partition_keeps_integrity (separate : Bool) (budget : Option Nat) (ops : List Op)
    (hadm : AdmissibleFs (FsBackend.init separate budget false) ops) (bs : List Bytes) (hb : ∀ b ∈ bs, b + 1 < 1000000) :
    let d := storeBlobs (reach separate budget ops).ds bs
    (∀ h v c, alookup d.objs (.content h, v) = some c → c = .blob h) ∧
    (∀ h, (d.objs.filter (fun p => p.1.1 == K.content h)).length ≤ 1) := by
  have hw := (storeBlobs_wf bs _ (reach_wf separate budget ops hadm).ds hb).1
  exact ⟨hw.contentOk, hw.content_unique⟩

-- 3 data objects from `demo7`; the partitions add 21, 22, then 23 only
example : ((storeBlobs (storeBlobs (reach false none demo7).ds [7, 21, 22]) [21, 7, 23]).objs.filter
    (fun p => !p.1.1.isMetaArea)).length = 6 := by decide

end Memento.Store
