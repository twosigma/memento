import MementoModel.Lemmas.CodecLemmas

/-!
# C11 — the JSON metadata codec round-trips and keeps its cross-language wire format

The model is `Model/Codec.lean` (`MementoCodec.encode_* / decode_*` and the reference constructors the decoders
call; values are the `Arg` of `Model/ArgHash.lean`, documents the `JVal` of `Model/Json.lean`).

The domain (`wfMemento cb m`) says what every memento object built by the real constructors satisfies:
* value tokens have the shape their Python renderers give them (`repr(float)` is not an integer
  literal, `date.isoformat()` is `dddd-dd-dd`, `datetime.isoformat()` is `…T…` followed by nothing or a
  whole-minute offset `±hh:mm` — the offsets `dateutil.isoparse`, hence `ArgumentHasher.normalize`, accepts);
* no dictionary value has a `_mementoType` key (normalization turns those into dates / references);
* the effective kwargs of every call are computable (the constructor would have raised otherwise);
* function references that resolve in the code base `cb` carry the parameter names of that function;
* the *version* of a content key contains no `#` (it is a uuid4 or empty; the *key* may contain `#`).
-/
namespace Memento.Codec
open Memento.Json Memento.ArgHash

/-- **decode ∘ encode = id on mementos**: same time text (hence instant), function reference, arguments,
    keyword and context arguments, invocations (in order), resources, dependencies, runtime, result type,
    runner, correlation id and content key — the decoded record *is* the original one. -/
theorem decode_encode (cb : CodeBase) (m : Memento) (h : wfMemento cb m = true) :
    decMemento cb (encMemento m) = some m :=
  decMemento_encMemento h

/-- the same, field by field, in the words of the property -/
theorem decode_encode_fields (cb : CodeBase) (m : Memento) (h : wfMemento cb m = true) :
    ∃ m', decMemento cb (encMemento m) = some m' ∧
      m'.time = m.time ∧ m'.call.ref.qn = m.call.ref.qn ∧ m'.call.ref.pargs = m.call.ref.pargs ∧
      m'.call.ref.pkw = m.call.ref.pkw ∧ m'.call.ref.pnames = m.call.ref.pnames ∧
      m'.call.args = m.call.args ∧ m'.call.kwargs = m.call.kwargs ∧ m'.call.ctx = m.call.ctx ∧
      m'.invocations = m.invocations ∧ m'.resources = m.resources ∧ m'.deps = m.deps ∧
      m'.runtime = m.runtime ∧ m'.resultType = m.resultType ∧ m'.runner = m.runner ∧
      m'.correlationId = m.correlationId ∧ m'.contentKey = m.contentKey :=
  ⟨m, decMemento_encMemento h, rfl, rfl, rfl, rfl, rfl, rfl, rfl, rfl, rfl, rfl, rfl, rfl, rfl, rfl, rfl, rfl⟩

/-- typed `{type, value}` arguments round-trip at every depth: nested lists / dictionaries / function
    references with partial arguments, dates and datetimes with and without zones, NaN / infinities
    (float tokens are arbitrary non-integer tokens), arbitrary text -/
theorem arg_decode_encode (cb : CodeBase) (a : Arg) (h : wfArg a = true) (hr : resolved cb a = true) :
    decArg cb (encArg a) = some a :=
  decArg_encArg cb a h hr

/-- what the constructors do to decoded arguments (`ArgumentHasher.normalize`) is the identity on the
    domain: decoded values enter the hash exactly as the original ones did -/
theorem normalize_stable (a : Arg) (h : wfArg a = true) : normalize a = some a :=
  decode_encode_wf a h

/-- **the argument hash recomputed from the decoded arguments equals the original one** — for the
    memoized call and for every recorded invocation, for every hash function `H` on strings
    (SHA-256 in the implementation); and the original hash exists (the call was constructible). -/
theorem arghash_preserved (H : String → String) (cb : CodeBase) (m : Memento) (h : wfMemento cb m = true) :
    ∃ m', decMemento cb (encMemento m) = some m' ∧
      callHash H m'.call = callHash H m.call ∧ (callHash H m.call).isSome = true ∧
      m'.invocations.map (List.map (callHash H)) = m.invocations.map (List.map (callHash H)) := by
  refine ⟨m, decMemento_encMemento h, rfl, ?_, rfl⟩
  simp only [wfMemento, Bool.and_eq_true, and_assoc] at h
  obtain ⟨-, hcall, -⟩ := h
  -- the last conjunct of `wfCall`: the effective keyword arguments of the memoized call are computable
  simp only [wfCall, Bool.and_eq_true] at hcall
  simp [callHash, hcall.2]

/-- datetime texts: `isoformat()` → `+00:00`↦`Z` → parse → `isoformat()` is the identity, and the result
    is a datetime (never mistaken for a date) -/
theorem datetime_text_roundtrip (iso : String) (h : wfDateTime iso = true) :
    decDatetime (encDatetime iso) = .datetime iso :=
  decDatetime_encDatetime_datetime h

theorem date_text_roundtrip (iso : String) (h : wfDate iso = true) :
    decDatetime (encDatetime iso) = .date iso :=
  decDatetime_encDatetime_date h

/-- **versioned keys** `key#version` (split at the last `#`) round-trip **iff** the version contains no
    `#`; the key may contain any number of them -/
theorem versioned_key_roundtrip_iff (k : VKey) : decVKey (encVKey k) = k ↔ '#' ∉ k.version.toList :=
  decVKey_encVKey_iff k

/-- **every emitted document conforms to the wire format** (no hypothesis on the memento): the fixed
    field names of each object, typed `{type, value}` arguments whose tag agrees with the JSON kind of
    the value, a result type among the enum's names -/
theorem wire_schema (m : Memento) : wireMemento (encMemento m) = true :=
  wireMemento_encMemento m

/-- every argument, at every depth, is a typed node of the wire format -/
theorem typed_args_on_wire (a : Arg) : wireArg (encArg a) = true :=
  wireArg_encArg a

/-- the wire names of the result types are fixed, and decoding a name gives the member back -/
theorem result_type_names_fixed :
    ResultType.all.map ResultType.name =
      ["exception", "null", "boolean", "string", "binary", "number", "date", "timestamp", "list_result",
       "dictionary", "array_boolean", "array_int8", "array_int16", "array_int32", "array_int64",
       "array_float32", "array_float64", "index", "series", "data_frame", "partition", "memento_function"] ∧
    ∀ r : ResultType, ResultType.ofName r.name = some r :=
  ⟨rfl, ofName_name⟩

/-- the full clause of the property: *every* emitted document is plain (RFC 8259) JSON. It does not hold:
    `plain_json_full_false` (known finding K4). -/
def PlainJsonFull : Prop := ∀ (cb : CodeBase) (m : Memento), wfMemento cb m = true → strictJson (encMemento m) = true

/-- exact characterisation: the document is plain JSON **iff** the memento holds no NaN / ±infinity
    (and its runner description is plain JSON) -/
theorem plain_json_iff (m : Memento) : strictJson (encMemento m) = true ↔ finiteMemento m = true := by
  rw [strict_encMemento_eq]

/-- **partial version**: without non-finite floats the document is plain JSON -/
theorem plain_json_partial (m : Memento) (h : finiteMemento m = true) : strictJson (encMemento m) = true :=
  (plain_json_iff m).mpr h

/-- the witness: `one(nan)` memoized by a local runner -/
def nanMemento : Memento :=
  { time := "2024-01-01T00:00:00+00:00"
    call := ⟨⟨"c11fns:one#1", .nil, .nil, ["a"]⟩, .cons (.float "NaN") .nil, .nil, .nil⟩
    invocations := some [], resources := some [], runtime := "1.0", resultType := .number, deps := []
    runner := .obj (.cons "type" (.str "local") .nil), correlationId := some "cid", contentKey := none }

theorem nanMemento_wf_not_strict :
    wfMemento [("c11fns:one#1", ["a"])] nanMemento = true ∧ strictJson (encMemento nanMemento) = false := by
  decide +kernel

/-- known finding K4: the full clause does not hold of twosigma/memento: a NaN argument is written as the bare token
    `NaN` -/
theorem plain_json_full_false : ¬ PlainJsonFull := fun h =>
  Bool.noConfusion ((h _ _ nanMemento_wf_not_strict.1).symm.trans nanMemento_wf_not_strict.2)

/-- a code base with two local functions; `cl::nomod:fn.x#2` is external -/
def exCb : CodeBase := [("c11fns:target#1", ["x", "y"]), ("c11fns:one#1", ["a"])]

/-- `target.partial(1, y=[nan, date(2020,1,1), {"k": -03:30 datetime}])` -/
def exInner : Arg :=
  .fnref "c11fns:target#1" (.cons (.int 1) .nil)
    (.cons "y" (.list (.cons (.float "NaN") (.cons (.date "2020-01-01")
      (.cons (.dict (.cons "k" (.datetime "2020-01-01T05:06:07.000008-03:30") .nil)) .nil)))) .nil)
    ["x", "y"]

/-- an external reference whose partial argument is a local reference with a nested partial -/
def exExt : FnRef := ⟨"cl::nomod:fn.x#2", .cons exInner .nil, .nil, ["p", "q"]⟩

def exMemento : Memento :=
  { time := "2024-01-01T00:00:00+00:00"
    call := ⟨⟨"c11fns:one#1", .nil, .nil, ["a"]⟩, .cons exInner .nil, .nil,
             .cons "c" (.list (.cons (.float "-Infinity") (.cons (.str "é😀") (.cons (.datetime "2020-01-01T00:00:00") .nil)))) .nil⟩
    invocations := some [⟨exExt, .cons (.bool true) .nil, .cons "kw" (.float "1.0") .nil, .nil⟩,
                         ⟨exExt, .cons (.bool true) .nil, .cons "kw" (.float "1.0") .nil, .nil⟩]
    resources := some [⟨some "t", some "u#é", none⟩]
    runtime := "1.000005", resultType := .memento_function, deps := [exExt, ⟨"c11fns:one#1", .nil, .nil, ["a"]⟩]
    runner := .obj (.cons "type" (.str "local") .nil), correlationId := none
    contentKey := some ⟨"reports/2024#q1", "5f0c1d"⟩ }

theorem exMemento_wf : wfMemento exCb exMemento = true := by decide +kernel

example : wfMemento exCb exMemento = true := exMemento_wf
example : decMemento exCb (encMemento exMemento) = some exMemento := decode_encode _ _ exMemento_wf
example : wfArg exInner = true ∧ resolved exCb exInner = true := by decide +kernel
example : (callHash id exMemento.call).isSome = true := by decide +kernel
example : wfDateTime "2024-01-01T00:00:00+00:00" = true ∧ encDatetime "2024-01-01T00:00:00+00:00" = "2024-01-01T00:00:00Z" := by decide +kernel
/-- the domain has microseconds, the largest offset and the first date -/
example : wfDateTime "0999-12-31T23:59:59.999999+14:00" = true ∧ wfDate "0001-01-01" = true := by decide +kernel
example : wireMemento (encMemento exMemento) = true := wire_schema _
example : decVKey (encVKey ⟨"reports/2024#q1", "5f0c1d"⟩) = ⟨"reports/2024#q1", "5f0c1d"⟩ :=
  (versioned_key_roundtrip_iff _).mpr (by decide +kernel)
example : decVKey (encVKey ⟨"a", "b#c"⟩) = ⟨"a#b", "c"⟩ := by decide +kernel
example : finiteMemento { nanMemento with call := ⟨⟨"c11fns:one#1", .nil, .nil, ["a"]⟩, .cons (.float "1.5") .nil, .nil, .nil⟩ } = true := by
  decide +kernel
example : wfMemento [("c11fns:one#1", ["a"])] nanMemento = true ∧ strictJson (encMemento nanMemento) = false :=
  nanMemento_wf_not_strict

end Memento.Codec
