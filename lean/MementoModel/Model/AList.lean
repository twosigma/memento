/-
  Python dictionaries as association lists (`alookup` / `aset` / `adel`: at most one pair per key once built with
  `aset`) and `sorted(set(..))` listings (`sortDedup`), as the storage model uses them. The other models write the same
  functions out for their own types; `Lemmas/AList.lean` is the one theory of them, to which those are bridged.
  Core-only.
-/
namespace Memento.Store

def alookup {α β} [DecidableEq α] (l : List (α × β)) (a : α) : Option β :=
  (l.find? (fun p => p.1 == a)).map (·.2)

def aset {α β} [DecidableEq α] (l : List (α × β)) (a : α) (b : β) : List (α × β) :=
  (a, b) :: l.filter (fun p => !(p.1 == a))

def adel {α β} [DecidableEq α] (l : List (α × β)) (a : α) : List (α × β) :=
  l.filter (fun p => !(p.1 == a))

/-- insertion sort + dedup, for canonical listings -/
def insertNat (x : Nat) : List Nat → List Nat
  | [] => [x]
  | y :: ys => if x < y then x :: y :: ys else if x = y then y :: ys else y :: insertNat x ys

def sortDedup (l : List Nat) : List Nat := l.foldr insertNat []

end Memento.Store
