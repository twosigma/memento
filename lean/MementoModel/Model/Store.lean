import MementoModel.Model.Cache
import MementoModel.Model.AList
/-
  Storage layer models.

  * `Spec`        — the abstract dictionary of memoized calls (the property's own words).
  * `MemBackend`  — `MemoryStorageBackend` (storage_memory.py).
  * `DS`          — a versioned key/object store: what `_FilesystemDataSource` implements
                    (objects `dir/.versions/<uuid>/<base>`, links `dir/<base>.link`).
  * `FsBackend`   — `FilesystemStorageBackend` = `StorageBackendBase` over
                    `DataSourceMetadataSource` + data `DS` + optional `MemoryCache`.

  Keys are *structured* (`K`); that their string renderings (`m/<qn>/<hash>.memento.json`, …)
  are injective and that the prefix/suffix tests of the listing code select exactly the
  intended keys is proved at character level in `Lemmas/Paths.lean`.
  Core-only.
-/
namespace Memento.Store
open Memento

abbrev Fn := Nat      -- qualified function name incl. version
abbrev Arg := Nat     -- argument hash
abbrev MKey := Nat    -- custom metadata key
abbrev Bytes := Nat   -- identity of a byte string (equal ids ⇔ equal bytes ⇔ equal SHA-256, `H` idealised)
abbrev Ver := Nat     -- uuid of a stored version (fresh counter)

/-! ## The abstract dictionary -/

structure Entry where
  mem : Nat           -- the memento recorded for the call
  val : Option Bytes  -- the value's serialised bytes; `none` = the null result
deriving DecidableEq, Repr

structure Spec where
  entries : List ((Fn × Arg) × Entry)
  mdata   : List ((Fn × Arg × MKey) × Bytes)
deriving Repr

def Spec.empty : Spec := ⟨[], []⟩

inductive Op
  | memoize (fn : Fn) (arg : Arg) (override : Option Nat) (mem : Nat) (val : Option Bytes)
      (size : Nat) (weakrefable : Bool)
  | getm (ks : List (Fn × Arg))
  | lookread (fn : Fn) (arg : Arg)
  | ismem (fn : Fn) (arg : Arg)
  | fcall (fn : Fn) (arg : Arg)
  | ffn (fn : Fn)
  | fall
  | lsf
  | lsm (fn : Fn)
  | wmeta (fn : Fn) (arg : Arg) (k : MKey) (b : Bytes)
  | rmeta (fn : Fn) (arg : Arg) (k : MKey)
  | hold (b : Bytes)     -- the caller keeps / drops a strong reference to a result object
  | drop (b : Bytes)     --   (only matters for the weak references of the memory cache)
deriving Repr

inductive Out
  | unit
  | mems (ms : List (Option Nat))
  | val (v : Option (Option Bytes))     -- none = no memento; some none = null result
  | bool (b : Bool)
  | fns (fs : List Fn)                  -- sorted, distinct
  | memset (ms : List Nat)              -- sorted
  | bytes (b : Option Bytes)
  | valueError
  | ioError
deriving DecidableEq, Repr

namespace Spec

def step (s : Spec) : Op → Spec × Out
  | .memoize fn arg _ mem val _ _ =>
    ({ s with entries := aset s.entries (fn, arg) ⟨mem, val⟩ }, .unit)
  | .getm ks => (s, .mems (ks.map (fun k => (alookup s.entries k).map (·.mem))))
  | .lookread fn arg => (s, .val ((alookup s.entries (fn, arg)).map (·.val)))
  | .ismem fn arg => (s, .bool (alookup s.entries (fn, arg)).isSome)
  | .fcall fn arg =>
    ({ entries := adel s.entries (fn, arg),
       mdata := s.mdata.filter (fun p => !(p.1.1 == fn && p.1.2.1 == arg)) }, .unit)
  | .ffn fn =>
    ({ entries := s.entries.filter (fun p => !(p.1.1 == fn)),
       mdata := s.mdata.filter (fun p => !(p.1.1 == fn)) }, .unit)
  | .fall => (Spec.empty, .unit)
  | .lsf => (s, .fns (sortDedup (s.entries.map (·.1.1))))
  | .lsm fn => (s, .memset (sortDedup ((s.entries.filter (fun p => p.1.1 == fn)).map (·.2.mem))))
  | .wmeta fn arg k b => ({ s with mdata := aset s.mdata (fn, arg, k) b }, .unit)
  | .rmeta fn arg k => (s, .bytes (alookup s.mdata (fn, arg, k)))
  | .hold _ => (s, .unit)
  | .drop _ => (s, .unit)

end Spec

/-- metadata is only ever attached to memoized calls (how the framework uses it) -/
def Op.admissible (s : Spec) : Op → Bool
  | .wmeta fn arg _ _ => (alookup s.entries (fn, arg)).isSome
  | _ => true

/-! ## `MemoryStorageBackend` -/

structure MemBackend where
  mementos : List ((Fn × Arg) × Nat)          -- `mementos[qn][arg_hash]`
  result   : List ((Fn × Arg) × Option Bytes)  -- `result[qn/arg_hash]`
  metadata : List ((Fn × Arg × MKey) × Bytes)  -- `metadata[qn/arg_hash][key]`
  readOnly : Bool
deriving Repr

namespace MemBackend

def init (ro : Bool := false) : MemBackend := ⟨[], [], [], ro⟩

def step (s : MemBackend) : Op → MemBackend × Out
  | .memoize fn arg _ mem val _ _ =>
    if s.readOnly then (s, .unit) else
    ({ s with result := aset s.result (fn, arg) val, mementos := aset s.mementos (fn, arg) mem }, .unit)
  | .getm ks => (s, .mems (ks.map (fun k => alookup s.mementos k)))
  | .lookread fn arg =>
    match alookup s.mementos (fn, arg) with
    | none => (s, .val none)
    | some _ => (s, .val (alookup s.result (fn, arg)))
  | .ismem fn arg => (s, .bool (alookup s.mementos (fn, arg)).isSome)
  | .fcall fn arg =>
    if s.readOnly then (s, .valueError) else
    ({ s with mementos := adel s.mementos (fn, arg), result := adel s.result (fn, arg),
              metadata := s.metadata.filter (fun p => !(p.1.1 == fn && p.1.2.1 == arg)) }, .unit)
  | .ffn fn =>
    if s.readOnly then (s, .valueError) else
    -- forget every call of the function; results and metadata are dropped by key prefix `qn/`
    ({ s with mementos := s.mementos.filter (fun p => !(p.1.1 == fn)),
              result := s.result.filter (fun p => !(p.1.1 == fn)),
              metadata := s.metadata.filter (fun p => !(p.1.1 == fn)) }, .unit)
  | .fall => if s.readOnly then (s, .valueError) else ({ s with mementos := [], result := [], metadata := [] }, .unit)
  | .lsf => (s, .fns (sortDedup (s.mementos.map (·.1.1))))
  | .lsm fn => (s, .memset (sortDedup ((s.mementos.filter (fun p => p.1.1 == fn)).map (·.2))))
  | .wmeta fn arg k b =>
    if s.readOnly then (s, .valueError) else ({ s with metadata := aset s.metadata (fn, arg, k) b }, .unit)
  | .rmeta fn arg k => (s, .bytes (alookup s.metadata (fn, arg, k)))
  | .hold _ => (s, .unit)
  | .drop _ => (s, .unit)

def abs (s : MemBackend) : Spec :=
  { entries := s.mementos.map (fun p => (p.1, ⟨p.2, (alookup s.result p.1).getD none⟩)),
    mdata := s.metadata }

end MemBackend

/-! ## `NullStorageBackend`: stateless, never reports anything as memoized -/

def nullStep : Op → Out
  | .getm ks => .mems (ks.map (fun _ => none))
  | .lookread _ _ => .val none
  | .ismem _ _ => .bool false
  | .lsf => .fns []
  | .lsm _ => .memset []
  | .rmeta _ _ _ => .bytes none
  | _ => .unit

/-! ## The versioned object store (`_FilesystemDataSource`) with structured keys -/

inductive K
  | content (h : Bytes)                                   -- `c/<sha256>`
  | override (o : Nat)                                    -- a user key (never under `c/`, `m/`)
  | memento (fn : Fn) (arg : Arg)                         -- `m/<qn>/<arg>.memento.json`
  | mdat (fn : Fn) (arg : Arg) (k : MKey) (withData : Bool) -- `m/<qn>/<arg>.metadata.<k>[.with_data]`
deriving DecidableEq, Repr

def K.isMetaArea : K → Bool
  | .memento .. | .mdat .. => true
  | _ => false

def K.fn? : K → Option Fn
  | .memento fn _ | .mdat fn _ _ _ => some fn
  | _ => none

def K.call? : K → Option (Fn × Arg)
  | .memento fn a | .mdat fn a _ _ => some (fn, a)
  | _ => none

inductive Content
  | blob (b : Bytes)                                   -- a serialised result
  | mrec (mem : Nat) (ck : Option (K × Ver))           -- a memento document (with its content key)
  | raw (b : Bytes)                                    -- custom metadata bytes
  | torn                                               -- an incomplete write (crash / fault)
deriving DecidableEq, Repr

structure DS where
  objs  : List ((K × Ver) × Content)   -- version files
  links : List (K × Ver)               -- `<key>.link` ↦ version it names
  next  : Ver                          -- uuid supply
deriving Repr

namespace DS

def empty : DS := ⟨[], [], 1⟩

/-- `output(key, data)`: fresh uuid, write the version file, then (re)write the link -/
def output (d : DS) (k : K) (c : Content) : DS × Ver :=
  ({ objs := ((k, d.next), c) :: d.objs, links := aset d.links k d.next, next := d.next + 1 }, d.next)

/-- `exists_nonversioned`: the link exists and the file it names exists -/
def existsNV (d : DS) (k : K) : Bool :=
  match alookup d.links k with
  | none => false
  | some v => (alookup d.objs (k, v)).isSome

def getVersioned (d : DS) (k : K) : Option Ver := alookup d.links k

def inputNV (d : DS) (k : K) : Option Content :=
  match alookup d.links k with
  | none => none
  | some v => alookup d.objs (k, v)

def inputV (d : DS) (k : K) (v : Ver) : Option Content := alookup d.objs (k, v)

/-- `delete_nonversioned_key`: only the link -/
def deleteLink (d : DS) (k : K) : DS := { d with links := adel d.links k }

/-- `delete_all_versions(key, recursive=False)`: the link and every version of that key -/
def deleteAll (d : DS) (k : K) : DS :=
  { d with links := adel d.links k, objs := d.objs.filter (fun p => !(p.1.1 == k)) }

/-- delete every key satisfying `sel` (recursive directory deletion) -/
def deleteWhere (d : DS) (sel : K → Bool) : DS :=
  { d with links := d.links.filter (fun p => !(sel p.1)), objs := d.objs.filter (fun p => !(sel p.1.1)) }

end DS

/-! ## `FilesystemStorageBackend` -/

/-- memento heap: what a `Memento` object carries that the read path needs -/
structure MInfo where
  fn  : Fn
  arg : Arg
  ck  : Option (K × Ver)
deriving DecidableEq, Repr

structure FsBackend where
  ds       : DS                        -- data and metadata objects (one store; `separate` only
  separate : Bool                      --   changes what `forget_everything` wipes)
  cache    : Option Cache.State
  heap     : List (Nat × MInfo)        -- memento id ↦ its fields
  readOnly : Bool
  nextObj  : Nat := 1                  -- supply of identities for objects deserialised from the store
  vinfo    : List (Bytes × (Nat × Bool)) := []
    -- data from the environment: `_estimate_object_size` / weak-referenceability of the object
    -- that deserialising these bytes yields (used when a store read fills the cache)

namespace FsBackend

def init (separate : Bool) (cacheBudget : Option Nat) (ro : Bool := false) : FsBackend :=
  { ds := DS.empty, separate, cache := cacheBudget.map Cache.init, heap := [], readOnly := ro }

def ckey (fn : Fn) (arg : Arg) : Cache.Key := ⟨fn, arg⟩

/-- `BlobStrategy.store` / `NullStrategy.store` -/
def codecStore (d : DS) (override : Option Nat) (val : Option Bytes) : DS × Option (K × Ver) :=
  match val with
  | none =>
    match override with
    | some o => (d.deleteLink (.override o), none)
    | none => (d, none)
  | some b =>
    match override with
    | some o => let (d', v) := d.output (.override o) (.blob b); (d', some (.override o, v))
    | none =>
      if d.existsNV (.content b) then
        match d.getVersioned (.content b) with
        | some v => (d, some (.content b, v))
        | none => (d, none)   -- unreachable: existsNV implies a link
      else let (d', v) := d.output (.content b) (.blob b); (d', some (.content b, v))

/-- `DataSourceMetadataSource._read_memento` via `get_mementos` (IOError ⇒ None) -/
def readMemento (d : DS) (fn : Fn) (arg : Arg) : Option (Nat × Option (K × Ver)) :=
  match d.inputNV (.memento fn arg) with
  | some (.mrec m ck) => some (m, ck)
  | _ => none

/-- `codec.load(result_type, data_source, content_key)`; `none` = IOError -/
def loadResult (d : DS) (ck : Option (K × Ver)) : Option (Option Bytes) :=
  match ck with
  | none => some none                      -- null result: nothing is read
  | some (k, v) =>
    match d.inputV k v with
    | some (.blob b) => some (some b)
    | _ => none

/-- identity of a result object in the cache model: `bytes id + 1 + 10^6 * generation`
    (0 is `None`); generation 0 = the object the caller passed to `memoize`, generation `n > 0` =
    the n-th object deserialised from the store. -/
def objId (val : Option Bytes) (gen : Nat) : Nat :=
  match val with
  | some b => b + 1 + 1000000 * gen
  | none => 0

def objBytes (v : Nat) : Option Bytes := if v = 0 then none else some (v % 1000000 - 1)

def cachePut (s : FsBackend) (fn : Fn) (arg : Arg) (mem : Nat) (val : Option Bytes) (size : Nat)
    (wr hasResult : Bool) (gen : Nat := 0) : FsBackend :=
  match s.cache with
  | none => s
  | some c =>
    { s with cache := some (Cache.prune (Cache.put c (ckey fn arg) mem (objId val gen) size wr hasResult none)) }

/-- the cache phase of `get_mementos`: looked up for *all* keys before anything else happens -/
def cacheLookup (s : FsBackend) (fn : Fn) (arg : Arg) : Option Nat :=
  match s.cache with
  | none => none
  | some c => (Cache.lookup c.cache (ckey fn arg)).map (·.mem)

/-- the store phase for one cache miss: read the memento document; on success remember the
    memento object and put a memento-only entry (size 16 = `sys.getsizeof(None)`) in the cache -/
def fetchMemento (s : FsBackend) (fn : Fn) (arg : Arg) : FsBackend × Option Nat :=
  match readMemento s.ds fn arg with
  | none => (s, none)
  | some (m, ck) =>
    let s' := { s with heap := aset s.heap m ⟨fn, arg, ck⟩ }
    (cachePut s' fn arg m none 16 false false, some m)

def mergeMementos (s : FsBackend) : List ((Fn × Arg) × Option Nat) → FsBackend × List (Option Nat)
  | [] => (s, [])
  | ((fn, arg), cached) :: rest =>
    match cached with
    | some m => let (s2, ms) := mergeMementos s rest; (s2, some m :: ms)
    | none =>
      let (s1, m) := fetchMemento s fn arg
      let (s2, ms) := mergeMementos s1 rest
      (s2, m :: ms)

/-- `StorageBackendBase.get_mementos` -/
def getMementos (s : FsBackend) (ks : List (Fn × Arg)) : FsBackend × List (Option Nat) :=
  mergeMementos s (ks.map (fun k => (k, cacheLookup s k.1 k.2)))

def getMemento (s : FsBackend) (fn : Fn) (arg : Arg) : FsBackend × Option Nat :=
  match getMementos s [(fn, arg)] with
  | (s', [m]) => (s', m)
  | (s', _) => (s', none)

/-- `StorageBackendBase.read_result(memento)`; `none` = IOError escapes -/
def readResult (s : FsBackend) (mem : Nat) (size : Nat) (wr : Bool) : FsBackend × Option (Option Bytes) :=
  match alookup s.heap mem with
  | none => (s, none)
  | some mi =>
    let fromStore : FsBackend × Option (Option Bytes) :=
      match loadResult s.ds mi.ck with
      | none => (s, none)
      | some v => ({ cachePut s mi.fn mi.arg mem v size wr true s.nextObj with nextObj := s.nextObj + 1 }, some v)
    match s.cache with
    | none => fromStore
    | some c =>
      match Cache.readResult c (ckey mi.fn mi.arg) with
      | (c', .value v) => ({ s with cache := some (Cache.prune c') }, some (objBytes v))
      | (_, .keyError) => fromStore

def isMemoized (s : FsBackend) (fn : Fn) (arg : Arg) : FsBackend × Bool :=
  match s.cache with
  | none => (s, s.ds.existsNV (.memento fn arg))
  | some c =>
    match Cache.isMemoized c (ckey fn arg) with
    | (c', true) => ({ s with cache := some (Cache.prune c') }, true)
    | (_, false) => (s, s.ds.existsNV (.memento fn arg))

def mapCache (s : FsBackend) (f : Cache.State → Cache.State) : FsBackend :=
  { s with cache := s.cache.map (fun c => Cache.prune (f c)) }

def sizeOf (s : FsBackend) (v : Option Bytes) : Nat :=
  match v with
  | none => 16
  | some b => ((alookup s.vinfo b).map (·.1)).getD 0

def wrOf (s : FsBackend) (v : Option Bytes) : Bool :=
  match v with
  | none => false
  | some b => ((alookup s.vinfo b).map (·.2)).getD false

def step (s : FsBackend) : Op → FsBackend × Out
  | .memoize fn arg override mem val size wr =>
    if s.readOnly then (s, .unit) else
    let s1 := cachePut s fn arg mem val size wr true           -- write-through first
    let (d1, ck) := codecStore s1.ds override val              -- then the data
    let (d2, _) := d1.output (.memento fn arg) (.mrec mem ck)  -- then the memento
    ({ s1 with ds := d2, heap := aset s1.heap mem ⟨fn, arg, ck⟩ }, .unit)
  | .getm ks => let (s', ms) := getMementos s ks; (s', .mems ms)
  | .lookread fn arg =>
    match getMemento s fn arg with
    | (s1, none) => (s1, .val none)
    | (s1, some m) =>
      -- the size of the value that will be put in the cache on a store read
      let v? := match alookup s1.heap m with
        | some mi => (loadResult s1.ds mi.ck).getD none
        | none => none
      match readResult s1 m (sizeOf s1 v?) (wrOf s1 v?) with
      | (s2, some v) => (s2, .val (some v))
      | (s2, none) => (s2, .ioError)     -- an IOError escaping (never on well-formed stores)
  | .ismem fn arg => let (s', b) := isMemoized s fn arg; (s', .bool b)
  | .fcall fn arg =>
    if s.readOnly then (s, .valueError) else
    let s1 := mapCache s (fun c => Cache.forgetCall c (ckey fn arg))
    ({ s1 with ds := s1.ds.deleteWhere (fun k => k.call? == some (fn, arg)) }, .unit)
  | .ffn fn =>
    if s.readOnly then (s, .valueError) else
    let s1 := mapCache s (fun c => Cache.forgetFunction c fn)
    ({ s1 with ds := s1.ds.deleteWhere (fun k => k.fn? == some fn) }, .unit)
  | .fall =>
    if s.readOnly then (s, .valueError) else
    let s1 := mapCache s Cache.forgetEverything
    ({ s1 with ds := s1.ds.deleteWhere (fun k => if s.separate then k.isMetaArea else true) }, .unit)
  | .lsf => (s, .fns (sortDedup (s.ds.links.filterMap (fun p => p.1.fn?))))
  | .lsm fn =>
    let ms := s.ds.links.filterMap (fun p => match p.1 with
      | .memento f a => if f = fn then (readMemento s.ds f a).map (·.1) else none
      | _ => none)
    (s, .memset (sortDedup ms))
  | .wmeta fn arg k b =>
    if s.readOnly then (s, .valueError) else
    let (d, _) := s.ds.output (.mdat fn arg k false) (.raw b)
    ({ s with ds := d }, .unit)
  | .rmeta fn arg k =>
    if s.ds.existsNV (.mdat fn arg k false) then
      match s.ds.inputNV (.mdat fn arg k false) with
      | some (.raw b) => (s, .bytes (some b))
      | _ => (s, .ioError)
    else (s, .bytes none)
  | .hold b => (mapCache s (fun c => Cache.hold c (b + 1)), .unit)
  | .drop b => (mapCache s (fun c => Cache.drop c (b + 1)), .unit)

/-- abstraction to the dictionary: the linked mementos and the bytes their content keys name -/
def abs (s : FsBackend) : Spec :=
  { entries := s.ds.links.filterMap (fun p => match p.1 with
      | .memento fn arg =>
        match readMemento s.ds fn arg with
        | some (m, ck) => some ((fn, arg), ⟨m, (loadResult s.ds ck).getD none⟩)
        | none => none
      | _ => none),
    mdata := s.ds.links.filterMap (fun p => match p.1 with
      | .mdat fn arg k false =>
        match s.ds.inputNV (.mdat fn arg k false) with
        | some (.raw b) => some ((fn, arg, k), b)
        | _ => none
      | _ => none) }

end FsBackend

end Memento.Store
